/-
C08 — grammar mistakes are rejected with the right diagnostic; clean grammars pass.

Proved for the model of check.rs (`Check.validate`, tied to the library exactly on every run), for
every grammar tree and target shell:
  - `rejects_no_variant`, `rejects_varying_names`, `rejects_slash_name`, `rejects_duplicate_plain`,
    `rejects_unknown_shell`, `rejects_non_command_spec`, `rejects_duplicate_target_spec`, `rejects_cycle`:
    a grammar with this mistake, and none of the mistakes checked before it, is rejected with this class,
    whatever else it contains (definitions that refer to each other in a circle: the depth-first traversal
    that orders the definitions cannot succeed, `Proofs/Topo.lean` + `Proofs/Cycle.lean`);
  - `no_false_diagnostics` (its clause for the cycle also as `cycle_verdict_real`), `verdict_classes`: each of
    the eight verdicts of validation, "spaces inside a word" among them, is only given when the mistake it
    names is present, and validation gives no others;
  - `clean_grammars_pass`, `accepted_is_clean`: a grammar with none of the mistakes is accepted, and only such
    a grammar is (`shadowed_plain_must_be_command`: the least obvious of the conditions cannot be dropped);
  - `verdict_decision_list`, `verdict_exhaustive`: the verdict as a list of clauses in the order the code runs
    its checks, whose premises cover every grammar;
  - `error_is_final`: an error of validation is the verdict of the whole pipeline.
The classes decided after validation (non-tail placeholder, conflicting descriptions) are not treated here;
they are decided per grammar by the run.

The label table `Gen.diagLabels` is regenerated from lib.rs / main.rs on every run.  Proved here: every
class the property names has a diagnostic line, these lines are pairwise distinct and none is empty, so the
first line of a diagnostic identifies the class; every error class of the model is a variant of the `Error`
enum that carries such a line.
-/
import Complgen.Proofs.Validate
import Complgen.Proofs.Cycle
import Complgen.Gen.Diag
import Complgen.Proofs.Verdict
namespace Complgen.Props.C08
open Complgen

def diagnosed : List String :=
  ["MissingCallVariants", "InvalidCommandName", "VaryingCommandNames", "NonterminalDefinitionsCycle",
   "DuplicateNonterminalDefinition", "UnknownShell", "NonCommandSpecialization", "UnboundedMatchable",
   "ConflictingDescriptions", "SubwordSpaces", "ParseError"]

def labelOf (c : String) : Option String := (Gen.diagLabels.find? (·.1 == c)).map (·.2)

/-- every class the property names has a diagnostic line in the current source -/
theorem labels_present : diagnosed.all (fun c => (labelOf c).isSome) = true := by decide +kernel

/-- the diagnostic lines of different classes differ, and none is empty -/
theorem labels_distinct :
    (diagnosed.all fun c => diagnosed.all fun d => c == d || labelOf c != labelOf d) = true ∧
    (diagnosed.all fun c => labelOf c != some "") = true := by decide +kernel

/-- the error classes of the model are variants of the `Error` enum of lib.rs -/
theorem model_classes_exist :
    ([Check.ErrClass.missingCallVariants, .invalidCommandName, .varyingCommandNames, .nonterminalDefinitionsCycle,
      .duplicateNonterminalDefinition, .unknownShell, .nonCommandSpecialization, .unboundedMatchable,
      .conflictingDescriptions, .subwordSpaces, .ambiguousDFA, .parseError].all
      fun c => (labelOf c.name).isSome) = true := by decide +kernel

open Complgen.Check in
/-- a grammar without call variants is rejected -/
theorem rejects_no_variant (g : Grammar) (sh : Shell) (h : callsOf g = []) :
    validate g sh = .err .missingCallVariants [] :=
  verdict_no_variant g sh h

open Complgen.Check in
/-- call variants for different command names are rejected -/
theorem rejects_varying_names (g : Grammar) (sh : Shell) (a b : String)
    (ha : a ∈ callNames g) (hb : b ∈ callNames g) (hab : a ≠ b) :
    ∃ spans, validate g sh = .err .varyingCommandNames spans :=
  verdict_varying g sh a b ha hb hab

open Complgen.Check in
/-- a command name containing `/` is rejected -/
theorem rejects_slash_name (g : Grammar) (sh : Shell) (n : String) (h : OneCommand g n)
    (hs : '/' ∈ n.toList) : ∃ sp, validate g sh = .err .invalidCommandName [sp] :=
  verdict_slash g sh n h hs

open Complgen.Check in
/-- two plain definitions of one nonterminal are rejected -/
theorem rejects_duplicate_plain (g : Grammar) (sh : Shell) (n : String) (h : OneCommand g n)
    (hs : '/' ∉ n.toList) (hd : ¬ ((plainDefs g).map (·.1)).Nodup) :
    ∃ spans, validate g sh = .err .duplicateNonterminalDefinition spans :=
  verdict_dup_plain g sh n h hs hd

open Complgen.Check in
/-- an unknown shell after `@` is rejected — for every target shell -/
theorem rejects_unknown_shell (g : Grammar) (sh : Shell) (n : String) (h : OneCommand g n)
    (hs : '/' ∉ n.toList) (hd : ((plainDefs g).map (·.1)).Nodup)
    (hc : ∀ x ∈ specDefs g, isCmdSpec x = true) (hu : ∃ x ∈ specDefs g, knownShell x = false)
    (hds : TargetSpecsDistinct g sh) :
    ∃ spans, validate g sh = .err .unknownShell spans := by
  rcases specsClean_or_fault g sh with hcl | ⟨x, hf⟩
  · obtain ⟨x, hx, hxu⟩ := hu
    rw [hcl.2.1 x hx] at hxu
    cases hxu
  · have hcx := hc x (firstSpecFault_mem g sh x hf)
    cases hk : knownShell x with
    | false => exact ⟨_, (verdict_spec_fault g sh n h hs hd x hf).2.1 hcx hk⟩
    | true => exact absurd hds (fault_dup_not_distinct g sh x hf hcx hk)

open Complgen.Check in
/-- a shell-specific definition that is not an external command is rejected — for every target shell -/
theorem rejects_non_command_spec (g : Grammar) (sh : Shell) (n : String) (h : OneCommand g n)
    (hs : '/' ∉ n.toList) (hd : ((plainDefs g).map (·.1)).Nodup)
    (hk : ∀ x ∈ specDefs g, knownShell x = true) (hnc : ∃ x ∈ specDefs g, isCmdSpec x = false)
    (hds : TargetSpecsDistinct g sh) :
    ∃ spans, validate g sh = .err .nonCommandSpecialization spans := by
  rcases specsClean_or_fault g sh with hcl | ⟨x, hf⟩
  · obtain ⟨x, hx, hxc⟩ := hnc
    rw [hcl.1 x hx] at hxc
    cases hxc
  · cases hc : isCmdSpec x with
    | false => exact ⟨_, (verdict_spec_fault g sh n h hs hd x hf).1 hc⟩
    | true => exact absurd hds (fault_dup_not_distinct g sh x hf hc (hk x (firstSpecFault_mem g sh x hf)))

open Complgen.Check in
/-- two definitions for the target shell are rejected -/
theorem rejects_duplicate_target_spec (g : Grammar) (sh : Shell) (n : String) (h : OneCommand g n)
    (hs : '/' ∉ n.toList) (hd : ((plainDefs g).map (·.1)).Nodup)
    (hc : ∀ x ∈ specDefs g, isCmdSpec x = true) (hk : ∀ x ∈ specDefs g, knownShell x = true)
    (hds : ¬ TargetSpecsDistinct g sh) :
    ∃ spans, validate g sh = .err .duplicateNonterminalDefinition spans := by
  rcases specsClean_or_fault g sh with hcl | ⟨x, hf⟩
  · exact absurd hcl.2.2 hds
  · have hx := firstSpecFault_mem g sh x hf
    exact (verdict_spec_fault g sh n h hs hd x hf).2.2 (hc x hx) (hk x hx)

open Complgen.Check in
/-- definitions that refer to each other in a circle (through any chain, inside words, under any
operator) are rejected as a cycle; `Reach` is one or more steps of "the body of this definition, as
specialised for the target shell, refers to that plain definition" -/
theorem rejects_cycle (g : Grammar) (sh : Shell) (n : String) (h : OneCommand g n)
    (hs : '/' ∉ n.toList) (hd : ((plainDefs g).map (·.1)).Nodup) (specs : AList UserSpec) (fbs : AList String)
    (hgs : getSpecializations g sh = .ok (specs, fbs)) (v : String)
    (hcyc : Reach (depGraph (tableOf sh g)) v v) :
    ∃ spans, validate g sh = .err .nonterminalDefinitionsCycle spans :=
  validate_cycle g sh n (commandOf_ok g n h hs) hd specs fbs hgs v hcyc

open Complgen.Check in
/-- conversely the cycle verdict is only given for a real cycle (no false "cycle" diagnostics) -/
theorem cycle_verdict_real (g : Grammar) (sh : Shell) (spans : List Span)
    (h : validate g sh = .err .nonterminalDefinitionsCycle spans) :
    ∃ u, Reach (depGraph (tableOf sh g)) u u :=
  nonterminalDefinitionsCycle_real g sh spans h

/-- an error of validation is the verdict of the whole pipeline, for every work-list schedule -/
theorem error_is_final (σ : Schedule) (g : Grammar) (sh : Shell) (c : Check.ErrClass) (s : List Span)
    (h : Check.validate g sh = .err c s) : ∃ s', Pipeline.compile σ g sh = .err c s' :=
  Check.compile_err_of_validate σ g sh c s h

/-- Non-vacuity: `cmd a; other b;` meets the premises of `rejects_varying_names`, and
`cmd a; <X@tcsh> = {{{ x }}};` those of `rejects_unknown_shell`. -/
example :
    let g : Grammar := [.call "cmd" default (.term "a" none 0 default), .call "other" default (.term "b" none 0 default)]
    "cmd" ∈ Check.callNames g ∧ "other" ∈ Check.callNames g := by decide

example :
    let g : Grammar := [.call "cmd" default (.term "a" none 0 default),
                        .defn "X" default (some ("tcsh", default)) (.cmd "x" false 0 default)]
    Check.OneCommand g "cmd" ∧ (∃ x ∈ Check.specDefs g, Check.knownShell x = false) ∧
      (∀ x ∈ Check.specDefs g, Check.isCmdSpec x = true) := by
  refine ⟨⟨by decide, by decide⟩, ⟨_, List.mem_cons_self, by decide⟩, by decide⟩

open Complgen.Check in
/-- **No false diagnostics**: each of the eight verdicts of validation is only given when the mistake it
names is present (`Proofs/Verdict.lean`).  For "non-command specialization" the mistake has two forms —
the code also requires a *plain* definition of a name that is defined for the target shell as well to be
an external command (it is that definition's fall-back). -/
theorem no_false_diagnostics (g : Grammar) (sh : Shell) (spans : List Span) :
    (validate g sh = .err .missingCallVariants spans → callsOf g = []) ∧
    (validate g sh = .err .varyingCommandNames spans → ∃ a b, a ∈ callNames g ∧ b ∈ callNames g ∧ a ≠ b) ∧
    (validate g sh = .err .invalidCommandName spans → ∃ n, OneCommand g n ∧ '/' ∈ n.toList) ∧
    (validate g sh = .err .duplicateNonterminalDefinition spans →
      ¬ ((plainDefs g).map (·.1)).Nodup ∨ ¬ TargetSpecsDistinct g sh) ∧
    (validate g sh = .err .unknownShell spans → ∃ x ∈ specDefs g, knownShell x = false) ∧
    (validate g sh = .err .nonCommandSpecialization spans →
      (∃ x ∈ specDefs g, isCmdSpec x = false) ∨
      (∃ p ∈ plainDefs g, p.1 ∈ targetSpecNames g sh ∧ isCmdExpr p.2.2 = false)) ∧
    (validate g sh = .err .nonterminalDefinitionsCycle spans → Cyclic g sh) ∧
    (validate g sh = .err .subwordSpaces spans →
      ∃ l r t, spacesVerdict g sh = .bad l r t ∧ spans = l :: r :: t) :=
  ⟨missingCallVariants_real g sh spans, varyingCommandNames_real g sh spans, invalidCommandName_real g sh spans,
   duplicateNonterminalDefinition_real g sh spans, unknownShell_real g sh spans,
   nonCommandSpecialization_real g sh spans, nonterminalDefinitionsCycle_real g sh spans, subwordSpaces_real g sh spans⟩

open Complgen.Check in
/-- validation gives no other verdicts than these eight -/
theorem verdict_classes (g : Grammar) (sh : Shell) (c : ErrClass) (spans : List Span)
    (h : validate g sh = .err c spans) :
    c = .missingCallVariants ∨ c = .varyingCommandNames ∨ c = .invalidCommandName ∨
    c = .duplicateNonterminalDefinition ∨ c = .unknownShell ∨ c = .nonCommandSpecialization ∨
    c = .nonterminalDefinitionsCycle ∨ c = .subwordSpaces :=
  validate_classes g sh c spans h

open Complgen.Check in
/-- **Clean grammars pass**: one command name without `/`, every name defined at most once plainly and at
most once for the target shell, every shell-specific definition an external command for a known shell,
the plain definitions shadowed by a target-shell definition external commands, no circle among the
definitions, no blank-separated items inside a word — then validation accepts. -/
theorem clean_grammars_pass (g : Grammar) (sh : Shell) (n : String) (h : OneCommand g n)
    (hs : '/' ∉ n.toList) (hd : ((plainDefs g).map (·.1)).Nodup)
    (hc : ∀ x ∈ specDefs g, isCmdSpec x = true) (hk : ∀ x ∈ specDefs g, knownShell x = true)
    (hds : TargetSpecsDistinct g sh) (hsh : ShadowedPlainAreCmds g sh)
    (hcyc : ¬ ∃ u, Reach (depGraph (tableOf sh g)) u u) (hsp : spacesVerdict g sh = .fine) :
    ∃ v, validate g sh = .ok v :=
  validate_ok_of_clean g sh n h hs hd hc hk hds hsh hcyc hsp

open Complgen.Check in
/-- … and only they: an accepted grammar has none of the mistakes -/
theorem accepted_is_clean (g : Grammar) (sh : Shell) (v : Valid) (h : validate g sh = .ok v) :
    ∃ n, WellFormed g sh n ∧ ¬ Cyclic g sh ∧ spacesVerdict g sh = .fine :=
  accepted_real g sh v h

open Complgen.Check in
/-- the condition on shadowed plain definitions cannot be dropped: `cmd <X>; <X> ::= foo; <X@bash> ::= {{{ x }}};`
meets all the others and is rejected for bash -/
theorem shadowed_plain_must_be_command :
    OneCommand shadowExample "cmd" ∧ '/' ∉ "cmd".toList ∧ ((plainDefs shadowExample).map (·.1)).Nodup ∧
    (∀ x ∈ specDefs shadowExample, isCmdSpec x = true) ∧ (∀ x ∈ specDefs shadowExample, knownShell x = true) ∧
    TargetSpecsDistinct shadowExample .bash ∧
    (¬ ∃ u, Reach (depGraph (tableOf .bash shadowExample)) u u) ∧
    spacesVerdict shadowExample .bash = .fine ∧
    validate shadowExample .bash = .err .nonCommandSpecialization [default] ∧
    ¬ ShadowedPlainAreCmds shadowExample .bash :=
  clean_needs_shadowed

open Complgen.Check in
/-- **The verdict as a decision list**, in the order the code runs its checks: the first condition that holds
decides the outcome (the shell-specific definitions are examined in source order; within one, "not a command"
wins over "unknown shell", which wins over "second definition for the target"). -/
theorem verdict_decision_list (g : Grammar) (sh : Shell) :
    (callsOf g = [] → validate g sh = .err .missingCallVariants []) ∧
    (∀ a b, a ∈ callNames g → b ∈ callNames g → a ≠ b →
      ∃ spans, validate g sh = .err .varyingCommandNames spans) ∧
    (∀ n, OneCommand g n → '/' ∈ n.toList → ∃ sp, validate g sh = .err .invalidCommandName [sp]) ∧
    (∀ n, OneCommand g n → '/' ∉ n.toList → ¬ ((plainDefs g).map (·.1)).Nodup →
      ∃ spans, validate g sh = .err .duplicateNonterminalDefinition spans) ∧
    (∀ n, OneCommand g n → '/' ∉ n.toList → ((plainDefs g).map (·.1)).Nodup →
      ∀ x, FirstSpecFault g sh x →
        (isCmdSpec x = false → validate g sh = .err .nonCommandSpecialization [x.2.2.2.2.span]) ∧
        (isCmdSpec x = true → knownShell x = false → validate g sh = .err .unknownShell [x.2.2.2.1]) ∧
        (isCmdSpec x = true → knownShell x = true →
          ∃ spans, validate g sh = .err .duplicateNonterminalDefinition spans)) ∧
    (∀ n, OneCommand g n → '/' ∉ n.toList → ((plainDefs g).map (·.1)).Nodup → SpecsClean g sh →
      ¬ ShadowedPlainAreCmds g sh → ∃ spans, validate g sh = .err .nonCommandSpecialization spans) ∧
    (∀ n, WellFormed g sh n → Cyclic g sh → ∃ spans, validate g sh = .err .nonterminalDefinitionsCycle spans) ∧
    (∀ n, WellFormed g sh n → ¬ Cyclic g sh →
      ∀ l r t, spacesVerdict g sh = .bad l r t → validate g sh = .err .subwordSpaces (l :: r :: t)) ∧
    (∀ n, WellFormed g sh n → ¬ Cyclic g sh → spacesVerdict g sh = .overflow →
      validate g sh = .crash spacesCrash) ∧
    (∀ n, WellFormed g sh n → ¬ Cyclic g sh → spacesVerdict g sh = .fine → ∃ v, validate g sh = .ok v) :=
  validate_verdict g sh

open Complgen.Check in
/-- the premises of the decision list cover every grammar -/
theorem verdict_exhaustive (g : Grammar) (sh : Shell) :
    callsOf g = [] ∨
    (∃ a b, a ∈ callNames g ∧ b ∈ callNames g ∧ a ≠ b) ∨
    (∃ n, OneCommand g n ∧ '/' ∈ n.toList) ∨
    (∃ n, OneCommand g n ∧ '/' ∉ n.toList ∧ ¬ ((plainDefs g).map (·.1)).Nodup) ∨
    (∃ n, OneCommand g n ∧ '/' ∉ n.toList ∧ ((plainDefs g).map (·.1)).Nodup ∧ ∃ x, FirstSpecFault g sh x) ∨
    (∃ n, OneCommand g n ∧ '/' ∉ n.toList ∧ ((plainDefs g).map (·.1)).Nodup ∧ SpecsClean g sh ∧
      ¬ ShadowedPlainAreCmds g sh) ∨
    (∃ n, WellFormed g sh n ∧ Cyclic g sh) ∨
    (∃ n, WellFormed g sh n ∧ ¬ Cyclic g sh) :=
  validate_verdict_exhaustive g sh

end Complgen.Props.C08
