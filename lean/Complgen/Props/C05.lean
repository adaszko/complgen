/-
C05 — grammar text parses to the tree its syntax prescribes.

The parser model (`Model/Parse.lean`) is compared with the real parser on every run (trees, spans,
error locations, exactly).  Proved here: the facts about layout that the round-trip theorems rest
on — skipping blanks is idempotent, comments run to the end of their line, and blanks never start
with a character that can begin an item — and, for the two lexers (`Proofs/Lexer.lean`), the round
trip itself, for every text:
  * `terminal_is_decoder` — the three-phase loop of `terminal` (regular run / escapes / fewer than three
    dots, repeated) reads exactly what a character-by-character reference decoder reads, for every
    input; `terminal_roundtrip` / `terminal_roundtrip_escape_all` — every non-empty text over the
    permitted characters, printed with the fewest escapes (a dot is escaped only as the third of a
    run) or with every special character escaped, followed by anything that cannot continue a
    literal, is read back as that text and exactly its characters are consumed;
  * `description_roundtrip` — every text printed between double quotes with `"` and `\` escaped is read
    back as that text.
  * `ladder_roundtrip` (`Proofs/SpansFull.lean`) — the operator ladder: every normal-form tree over
    literals of regular characters, nonterminals and commands, built with sequence, `|`, `||`, `[ ]`
    and postfix `...`, printed with the minimum of parentheses the precedences require (`Parse.pp`),
    is read back by `fallback` as the same tree up to spans — precedence, associativity, the
    `|`-versus-`||` look-ahead, and the back-tracking of the sequence loop, for every tree.
  * `ladder_roundtrip_layout` (`Proofs/SpansFull.lean`) — the same with *any* admissible layout
    between the tokens: every stretch of blanks, form feeds and closed `#` comments (chosen per
    position of the tree: between the items of a sequence, on either side of `|` and `||`, inside
    brackets and parentheses, before a postfix `...`; at least one character between two words, and no
    `#` directly after a word, where it would be part of the word).  `Parse.pp` is the instance with
    one blank at the operators (`plain_printer_is_a_layout`).
  * `ladder_roundtrip_full` (`Proofs/SpansFull.lean`; printer and fragment: `Proofs/LadderFull.lean`) — the ladder with escaped literals, descriptions
    (of literals and distributed over groups) and juxtaposition inside words, for the printer `pp'`.
  * `grammar_roundtrip`, `grammar_roundtrip_layout` (`Proofs/SpansFile.lean`; printers: `Proofs/Statements.lean`) — whole files: statements
    of the three kinds over the operator ladder, under every admissible layout, through the model of
    `Grammar::parse` with the fuel it provides itself.
  * `ladder_roundtrip_full_layout`, `grammar_roundtrip_full_layout` (`Proofs/SpansFull.lean`,
    `Proofs/SpansFile.lean`) — both extensions together: whole files over the larger fragment under
    every admissible layout.
Open: blanks inside `{{{ }}}` and commands containing `}`; redundant parentheses; the `(…)` forms the
printer never chooses.
-/
import Complgen.Model.Parse
import Complgen.Proofs.Lexer
import Complgen.Proofs.Ladder
import Complgen.Proofs.LadderFull
import Complgen.Proofs.Statements
import Complgen.Proofs.LadderFullLayout
import Complgen.Proofs.SpansFile
namespace Complgen.Props.C05
open Complgen Complgen.Parse

/-- what `multiblanks0` skips ends where no blank, comment or form feed starts -/
theorem mb0Aux_stop (l : List Char) :
    ∀ inComment, mb0Aux false (l.drop (mb0Aux inComment l)) = 0 := by
  induction l with
  | nil => intro b; cases b <;> simp [mb0Aux]
  | cons c cs ih =>
    intro b
    cases b with
    | true =>
      simp only [mb0Aux]
      split <;> (rw [Nat.add_comm, List.drop_succ_cons]; exact ih _)
    | false =>
      simp only [mb0Aux]
      split
      · rw [Nat.add_comm, List.drop_succ_cons]; exact ih _
      · split
        · rw [Nat.add_comm, List.drop_succ_cons]; exact ih _
        · rename_i h1 h2
          simp only [List.drop_zero, mb0Aux, h1, h2]
          simp

/-- a comment swallows everything up to the end of its line, operators included -/
theorem comment_swallows (body rest : List Char) (h : '\n' ∉ body) :
    mb0Aux true (body ++ '\n' :: rest) = body.length + 1 + mb0Aux false rest := by
  induction body with
  | nil => simp [mb0Aux]
  | cons c cs ih =>
    have hc : c ≠ '\n' := by intro h'; apply h; simp [h']
    have hcs : '\n' ∉ cs := by intro h'; apply h; simp [h']
    simp only [List.cons_append, mb0Aux, hc, if_false, ih hcs, List.length_cons]
    omega

/-- blanks stop in front of anything that can start an item or an operator -/
theorem mb0Aux_item (c : Char) (cs : List Char)
    (h : isSpace c = false ∧ c ≠ '\x0c' ∧ c ≠ '#') : mb0Aux false (c :: cs) = 0 := by
  obtain ⟨h1, h2, h3⟩ := h
  simp [mb0Aux, h1, h2, h3]

/-- Non-vacuity: the model of `Grammar::parse` accepts a one-statement file. -/
example : (Parse.parse "cmd a|b;".toList).toOption.isSome = true := by decide +kernel

/-- the literal lexer is the character-by-character reference decoder `dec'`, on every input -/
theorem terminal_is_decoder (s : PState) :
    terminal s = match dec' s.rest with
      | none => none
      | some (t, n) => if t.isEmpty then none else some (s.adv n, String.ofList t) :=
  terminal_eq_dec s

/-- **Literals round-trip** (fewest escapes): whatever precedes in `s`'s position bookkeeping, a
printed literal followed by a terminating character is read back exactly -/
theorem terminal_roundtrip (t rest : List Char) (s : PState) (ht : t ≠ [])
    (hperm : ∀ c ∈ t, isRegular c = true ∨ isEsc c = true) (hrest : Terminates rest)
    (hs : s.rest = escT 0 t ++ rest) :
    terminal s = some (s.adv (escT 0 t).length, String.ofList t) :=
  Parse.terminal_roundtrip t rest s ht hperm hrest hs

/-- the same with every special character escaped -/
theorem terminal_roundtrip_escape_all (t rest : List Char) (s : PState) (ht : t ≠ [])
    (hperm : ∀ c ∈ t, isRegular c = true ∨ isEsc c = true) (hrest : Terminates rest)
    (hs : s.rest = escAll t ++ rest) :
    terminal s = some (s.adv (escAll t).length, String.ofList t) :=
  Parse.terminal_roundtrip_all t rest s ht hperm hrest hs

/-- **Descriptions round-trip**: any text at all, with `"` and `\` escaped -/
theorem description_roundtrip (d rest : List Char) (s : PState) (hs : s.rest = '"' :: escD d ++ '"' :: rest) :
    description s = some (s.adv ((escD d).length + 2), String.ofList d) :=
  Parse.description_roundtrip d rest s hs

/-- Non-vacuity: `a.b` followed by a blank meets the premises of `terminal_roundtrip` -/
example : Terminates [' '] ∧ (∀ c ∈ ['a', '.', 'b'], isRegular c = true ∨ isEsc c = true) ∧
    escT 0 ['a', '.', 'b'] = ['a', '.', 'b'] ∧ escT 0 ['.', '.', '.'] = ['.', '.', '\\', '.'] := by
  refine ⟨.inr ⟨' ', [], rfl, by decide, by decide, by decide⟩, by decide, by decide, by decide⟩

/-- **The operator ladder round-trips**: a normal-form tree printed with minimal parentheses parses
back to itself (up to source positions), whatever follows it that cannot continue an expression. -/
theorem ladder_roundtrip (e : Expr) (hnf : NF e) (rest : List Char) (hrest : Follows rest) (s : PState)
    (hs : s.rest = pp 0 e ++ rest) (fuel : Nat) (hfuel : fuelNeeded e ≤ fuel) :
    ∃ e', fallback fuel s = some (s.adv (pp 0 e).length, e') ∧ e'.eraseSpans = e.eraseSpans :=
  fallback_roundtrip e hnf rest hrest s hs fuel hfuel

/-- what may follow: the end of the input, `;`, `)`, `]` -/
theorem ladder_followers (r : List Char) :
    Follows [] ∧ Follows (';' :: r) ∧ Follows (')' :: r) ∧ Follows (']' :: r) :=
  ⟨Follows_nil, Follows_semicolon r, Follows_rparen r, Follows_rbracket r⟩

/-- **The operator ladder round-trips under every admissible layout.** -/
theorem ladder_roundtrip_layout (e : Expr) (hnf : NF e) (lay : Layout) (adm : lay.Adm)
    (rest : List Char) (hrest : Follows rest) (s : PState) (hs : s.rest = ppL lay 0 e ++ rest)
    (fuel : Nat) (hfuel : fuelNeeded e ≤ fuel) :
    ∃ e', fallback fuel s = some (s.adv (ppL lay 0 e).length, e') ∧ e'.eraseSpans = e.eraseSpans :=
  fallback_roundtrip_layout e hnf lay adm rest hrest s hs fuel hfuel

/-- the plain printer is the printer with layout at one blank around the operators, an admissible
layout -/
theorem plain_printer_is_a_layout (ctx : Nat) (e : Expr) :
    pp ctx e = ppL plainLayout ctx e ∧ plainLayout.Adm :=
  ⟨pp_eq_ppL ctx e, plainLayout_adm⟩

/-- Non-vacuity: a layout with a comment, a line break and a form feed is admissible. -/
example : IsLayoutW [' ', '#', 'x', '\n', '\x0c', ' '] ∧ IsLayout ['#', '\n'] ∧ ¬ IsLayout ['#', 'a'] := by
  refine ⟨⟨by decide, fun r h => by cases h⟩, by decide, by decide⟩

/-- **The ladder round-trips with escapes, descriptions and juxtaposition** (`Proofs/SpansFull.lean`):
the fragment `NF'` — literals over every character the lexer admits (printed with the fewest
escapes), literals with a description, descriptions distributed over a group (`( … ) "d"`), words
built by juxtaposition (`--opt=<V>`), and the operators of `ladder_roundtrip` — printed by `pp'`
(parentheses where precedence, the three-dots rule or the description rule need them) is read back
as the same tree up to spans. -/
theorem ladder_roundtrip_full (e : Expr) (hnf : Full.NF' e) (rest : List Char) (hrest : Follows rest) (s : PState)
    (hs : s.rest = Full.pp' 0 e ++ rest) (fuel : Nat) (hfuel : fuelNeeded e ≤ fuel) :
    ∃ e', fallback fuel s = some (s.adv (Full.pp' 0 e).length, e') ∧ e'.eraseSpans = e.eraseSpans :=
  fallback_roundtrip_full e hnf rest hrest s hs fuel hfuel

/-- the larger fragment contains the smaller, with the same printed text -/
theorem full_subsumes_plain (e : Expr) (h : NF e) : Full.NF' e ∧ ∀ ctx, ctx ≤ 4 → Full.pp' ctx e = pp ctx e :=
  ⟨Full.NF_sub e h, Full.pp'_eq_pp e h⟩

/-- the side conditions of `NF'` and the extra parentheses of `pp'` are needed: kernel-evaluated runs
of the parser model on the offending texts (two juxtaposed literals read as one; a word inside a word
is flattened; a literal starting with `#` is a comment; `a....` is not `(a.)...`; `a "d"` is not
`(a) "d"`) -/
theorem full_restrictions_needed :
    Full.readsBack (.sub (.seq (ExprL.ofList [.term "a" none 0 ⟨0, 0, 0⟩, .term "b" none 0 ⟨0, 0, 0⟩]) ⟨0, 0, 0⟩) 0 ⟨0, 0, 0⟩) = false ∧
    Full.readsBack (.seq (ExprL.ofList [.term "x" none 0 ⟨0, 0, 0⟩, .term "#y" none 0 ⟨0, 0, 0⟩]) ⟨0, 0, 0⟩) = false ∧
    Full.readsAs ['a', '.', '.', '.', '.'] (.many1 (.term "a." none 0 ⟨0, 0, 0⟩) ⟨0, 0, 0⟩) = false ∧
    Full.readsAs ['a', ' ', '"', 'd', '"'] (.dd (.term "a" none 0 ⟨0, 0, 0⟩) "d" ⟨0, 0, 0⟩) = false :=
  ⟨Full.word_two_literals, Full.hash_literal, Full.dots_unparenthesised, Full.dd_unparenthesised.1⟩

/-- **Whole grammars round-trip** (`Proofs/SpansFile.lean`): every list of statements of the fragment
(`cmd expr;`, `<NAME> ::= expr;`, `<NAME@shell> ::= expr;` over the operator ladder), printed one
statement per line, is read back by the model of `Grammar::parse` as the same grammar up to spans —
with the fuel `Grammar::parse` itself provides (no fuel hypothesis). -/
theorem grammar_roundtrip (g : Grammar) (hg : ∀ st ∈ g, StmtNF st) :
    ∃ g', parse (ppGrammar g) = .ok g' ∧ g'.map Stmt.eraseSpans = g.map Stmt.eraseSpans :=
  Parse.grammar_roundtrip g hg

/-- … and under every admissible layout of the file: blanks / comments at the beginning, after the
statement name, around `::=` or `=` (either sign), inside the expression (`ladder_roundtrip_layout`),
before `;`, between statements; the last `;` optional. -/
theorem grammar_roundtrip_layout (g : Grammar) (hg : ∀ st ∈ g, StmtNF st) (G : GLayout) (adm : G.Adm g) :
    ∃ g', parse (ppGrammarL G g) = .ok g' ∧ g'.map Stmt.eraseSpans = g.map Stmt.eraseSpans :=
  Parse.grammar_roundtrip_layout g hg G adm

/-- Non-vacuity: a two-statement grammar under a layout with comments, a tab, `=` and no final `;`. -/
example : ∃ g', parse "# example\ncmd\ta <X> ;\n\n# next\n<X>\t=b | [c] ".toList = .ok g' ∧
    g'.map Stmt.eraseSpans = exGrammar.map Stmt.eraseSpans := by
  have h := Parse.grammar_roundtrip_layout exGrammar exGrammar_nf exLayout exLayout_adm
  rwa [ppGrammarL_exLayout] at h

/-- **The larger fragment under every admissible layout** (`Proofs/SpansFull.lean`): escaped
literals, descriptions (a possibly empty stretch of layout before the `"`, not starting with `#`),
descriptions over groups, words by juxtaposition (no layout inside a word), and the operators. -/
theorem ladder_roundtrip_full_layout (e : Expr) (hnf : Full.NF' e) (lay : Full.Layout') (adm : lay.Adm)
    (rest : List Char) (hrest : Follows rest) (s : PState) (hs : s.rest = Full.ppL' lay 0 e ++ rest)
    (fuel : Nat) (hfuel : Full.needF e ≤ fuel) :
    ∃ e', fallback fuel s = some (s.adv (Full.ppL' lay 0 e).length, e') ∧ e'.eraseSpans = e.eraseSpans :=
  fallback_roundtrip_full_layout e hnf lay adm rest hrest s hs fuel hfuel

/-- where layout may *not* stand, with kernel-evaluated runs of the parser model: a comment directly
after a word and before its description is part of the word; a blank inside a word splits it -/
theorem layout_positions_needed :
    Full.readsAs "a#c\n\"d\"".toList (.term "a" (some "d") 0 ⟨0, 0, 0⟩) = false ∧
    Full.readsAs "a#c\n\"d\"".toList (.term "a#c" (some "d") 0 ⟨0, 0, 0⟩) = true ∧
    Full.readsAs "--o= <V>".toList
      (.sub (.seq (ExprL.ofList [.term "--o=" none 0 ⟨0, 0, 0⟩, .nonterm "V" 0 ⟨0, 0, 0⟩]) ⟨0, 0, 0⟩) 0 ⟨0, 0, 0⟩) = false :=
  ⟨Full.descr_hash_literal.2.2.1, Full.descr_hash_literal.2.2.2, Full.blank_in_word.2.1⟩

/-- **Whole files over the larger fragment, every admissible layout** (`Proofs/SpansFile.lean`),
with the fuel `Grammar::parse` provides. -/
theorem grammar_roundtrip_full_layout (g : Grammar) (hg : ∀ st ∈ g, Full.StmtNF' st) (G : Full.GLayout')
    (adm : G.Adm g) :
    ∃ g', parse (Full.ppGrammarL' G g) = .ok g' ∧ g'.map Stmt.eraseSpans = g.map Stmt.eraseSpans :=
  Parse.grammar_roundtrip_full_layout g hg G adm

/-- the plain printer of whole files over the larger fragment -/
theorem grammar_roundtrip_full (g : Grammar) (hg : ∀ st ∈ g, Full.StmtNF' st) :
    ∃ g', parse (Full.ppGrammar' g) = .ok g' ∧ g'.map Stmt.eraseSpans = g.map Stmt.eraseSpans :=
  Parse.grammar_roundtrip_full g hg

end Complgen.Props.C05
