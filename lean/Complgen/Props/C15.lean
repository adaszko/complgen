/-
C15 — warnings are complete, precise and harmless.

`Spec/Warn.lean` states the three warning sets over the reference graph of the grammar.  Proved
here (for every grammar): `_` is never reported; a name reported as unused has a plain definition
and occurs in no statement (and conversely); an unused specialisation reported for shell S is a
definition for S whose name occurs in no statement (and conversely); every set lists a name once.
`warn_unused_eq`: for every grammar and shell the model of check.rs accepts, the names in its `unused`
map are exactly `unusedNames` (proved through the model's specialise / resolve passes,
`Proofs/Warn.lean`); `warn_unused_spec_eq`: likewise its `unusedSpecs` are exactly
`unusedSpecNames sh`; `warn_undefined_eq`: its `undefined` map holds exactly `undefinedNames sh`
(plus `_`, which is dropped when the warnings are printed) — through `validation_is_meaning` (C02),
i.e. through the dependency-ordered expansion; `warnings_harmless` — deleting the definitions (plain,
for the target shell, any) of a name no statement mentions leaves the validated expression unchanged
(`Proofs/Harmless.lean`).  Per grammar the run checks model = library exactly and library/binary =
spec.
-/
import Complgen.Spec.Warn
import Complgen.Proofs.Warn
import Complgen.Proofs.Meaning
import Complgen.Proofs.Harmless
import Complgen.Proofs.MyhillNerode
namespace Complgen.Props.C15
open Complgen Complgen.Spec

theorem underscore_never_reported (sh : Shell) (g : Grammar) : "_" ∉ undefinedNames sh g := by
  unfold undefinedNames
  intro h
  have := List.mem_eraseDups.mp h
  simp at this

theorem unused_iff (g : Grammar) (n : String) :
    n ∈ unusedNames g ↔ (∃ sp e, Stmt.defn n sp none e ∈ g) ∧ n ∉ referred g :=
  Check.mem_unusedNames g n

theorem unused_spec_iff (sh : Shell) (g : Grammar) (n : String) :
    n ∈ unusedSpecNames sh g ↔ (∃ sp ss e, Stmt.defn n sp (some (sh.name, ss)) e ∈ g) ∧ n ∉ referred g :=
  Check.mem_unusedSpecNames sh g n

/-- each set lists a name at most once -/
theorem reported_once (sh : Shell) (g : Grammar) :
    (undefinedNames sh g).Nodup ∧ (unusedNames g).Nodup ∧ (unusedSpecNames sh g).Nodup :=
  ⟨nodup_eraseDups _, nodup_eraseDups _, nodup_eraseDups _⟩

/-- **What the model warns about as unused is what the specification says**, for every grammar and
target shell the model of check.rs accepts. -/
theorem warn_unused_eq (g : Grammar) (sh : Shell) (v : Check.Valid) (h : Check.validate g sh = .ok v) (n : String) :
    n ∈ v.unused.map (·.1) ↔ n ∈ unusedNames g :=
  Check.validate_unused_eq g sh v h n

/-- hence: a plain definition is reported by the model iff its name occurs in no statement -/
theorem warn_unused_iff (g : Grammar) (sh : Shell) (v : Check.Valid) (h : Check.validate g sh = .ok v) (n : String) :
    n ∈ v.unused.map (·.1) ↔ (∃ sp e, Stmt.defn n sp none e ∈ g) ∧ n ∉ referred g :=
  (warn_unused_eq g sh v h n).trans (unused_iff g n)

/-- **The specialisations the model warns about as unused are what the specification says.** -/
theorem warn_unused_spec_eq (g : Grammar) (sh : Shell) (v : Check.Valid) (h : Check.validate g sh = .ok v) (n : String) :
    n ∈ v.unusedSpecs.map (·.1) ↔ n ∈ unusedSpecNames sh g :=
  Check.validate_unusedSpecs_eq g sh v h n

theorem warn_unused_spec_iff (g : Grammar) (sh : Shell) (v : Check.Valid) (h : Check.validate g sh = .ok v) (n : String) :
    n ∈ v.unusedSpecs.map (·.1) ↔
      (∃ sp ss e, Stmt.defn n sp (some (sh.name, ss)) e ∈ g) ∧ n ∉ referred g :=
  (warn_unused_spec_eq g sh v h n).trans (unused_spec_iff sh g n)

/-- **The names the model reports as undefined are what the specification says**: the names that
still stand for "any word" in the grammar's meaning for the target shell, `_` excepted. -/
theorem warn_undefined_eq (g : Grammar) (sh : Shell) (v : Check.Valid) (h : Check.validate g sh = .ok v) (n : String) :
    (n ∈ v.undefined.map (·.1) ∧ n ≠ "_") ↔ n ∈ undefinedNames sh g :=
  Check.validate_undefined_eq g sh v h n

/-- **Warnings are harmless**: a definition that is warned about as unused — its name occurs in no
statement — does not take part in the grammar's meaning.  `q` selects definitions of `n` (e.g.
`Check.isPlainDefOf n`, `Check.isSpecDefOf n sh`); whenever the model accepts the grammar with and
without them, the validated expression (from which the automaton and every script are built) is the
same. -/
theorem warnings_harmless (g : Grammar) (sh : Shell) (n : String) (q : Stmt → Bool) (hq : Check.DefsOf n q)
    (v v' : Check.Valid) (hu : n ∉ referred g) (h : Check.validate g sh = .ok v)
    (h' : Check.validate (Check.dropWhere q g) sh = .ok v') : v'.expr = v.expr :=
  Check.validate_dropWhere g sh n q hq v v' hu h h'

/-- the two selections the warnings are about -/
theorem harmless_selections (n : String) (sh : Shell) :
    Check.DefsOf n (Check.isPlainDefOf n) ∧ Check.DefsOf n (Check.isSpecDefOf n sh) :=
  ⟨Check.defsOf_plain n, Check.defsOf_spec n sh⟩

end Complgen.Props.C15
