/-
C07 — text taken from the grammar reaches the shell verbatim and inert.

The chains (`Gen.*Chain`) are regenerated from the Rust source on every run; each theorem below is
re-checked against what the code says now.  `chainOK` is a decidable predicate evaluated by the
kernel (`decide`) on the current chain; `chain_roundtrip` lifts it to every string.
-/
import Complgen.Proofs.Quote
import Complgen.Gen.Chains
namespace Complgen.Props.C07
open Complgen.Quote Complgen.Gen

theorem bash_chain_ok : chainOK bashDialect bashChain = true := by decide +kernel
theorem fish_chain_ok : chainOK fishDialect fishChain = true := by decide +kernel
theorem zsh_chain_ok : chainOK zshDialect zshChain = true := by decide +kernel
theorem pwsh_chain_ok : chainOK pwshDialect pwshChain = true := by decide +kernel

/-- bash reads every emitted string constant back as the original text. -/
theorem bash_roundtrip (s : List Char) :
    bashDialect.decode (applyChain bashChain s) = some s :=
  chain_roundtrip _ _ bash_chain_ok s

theorem fish_roundtrip (s : List Char) :
    fishDialect.decode (applyChain fishChain s) = some s :=
  chain_roundtrip _ _ fish_chain_ok s

theorem zsh_roundtrip (s : List Char) :
    zshDialect.decode (applyChain zshChain s) = some s :=
  chain_roundtrip _ _ zsh_chain_ok s

theorem pwsh_roundtrip (s : List Char) :
    pwshDialect.decode (applyChain pwshChain s) = some s :=
  chain_roundtrip _ _ pwsh_chain_ok s

/-- Non-vacuity: the theorems speak about strings full of special characters. -/
example : fishDialect.decode (applyChain fishChain "a\\\"$`b".toList) = some "a\\\"$`b".toList := by
  decide

end Complgen.Props.C07
