/-
C01 — bash completions of the emitted script = the grammar's meaning.

`Spec/Complete.lean` is the executable statement of what the grammar prescribes; the run compares
the real bash with it on every explored command line.  Proved here about the prescription itself:
stripping `pre` from `pre ++ s` leaves `s` (`strip_prefix`), and with COMP_WORDBREAKS empty nothing is
stripped (`superfluous_empty_wb`).  And over the model of the bash template (`Model/BashRt.lean`, compared
with the real bash on every explored command line) running on the model of the emitted tables
(`Model/Tables.lean`, compared with the tables of the real script):
  * `template_interprets_automaton` — the completion function of the script emitted for a `Dfa` performs
    the run of the automaton on the earlier words (literal, else within-word automaton, else command, else
    any word; with the last-word heuristic) and offers the candidates of the least `||` level that has any
    at the state reached; `template_interprets_literals` is the literal-only case with its hypotheses written
    on the automaton, `template_reads_literal` one step of it (`template_needs_word_determinism`: its
    hypothesis is needed), `template_walk_is_a_run` the part that needs no determinism;
  * `within_word_matcher_follows_automaton` — the within-word matcher follows the within-word automaton when
    its literals are prefix-free at every state (`within_word_needs_prefix_free`: needed);
  * for ANY tables, states, typed text and command output: `template_offers_extend` — every candidate the
    completion function collects extends the typed text (top-level literals, within-word continuations,
    command candidates, on whatever level they are found); `template_unmatched_silent` — a command line
    whose earlier words cannot be read yields no candidates at all; `template_overwritten_array_harmless`.
`C01_model` (the model of the template computes `Spec.Complete.complete` on in-class grammars) is the
open growth target.
-/
import Complgen.Spec.Complete
import Complgen.Proofs.Offer
import Complgen.Proofs.TemplateDfa
import Complgen.Proofs.TemplateDfaAll
import Complgen.Proofs.SubwordDfa
namespace Complgen.Props.C01
open Complgen Complgen.Spec.Complete

theorem strip_prefix (pre s : String) : strip pre (pre ++ s) = s := by
  unfold strip
  have h : pre.toList.isPrefixOf (pre ++ s).toList = true := by
    simp [String.toList_append]
  rw [if_pos h]
  have : pre.length = pre.toList.length := Eq.symm String.length_toList
  rw [String.toList_append, this, List.drop_left]
  exact String.ofList_toList

/-- with an empty COMP_WORDBREAKS nothing is stripped -/
theorem superfluous_empty_wb (p : String) : superfluous p "" = "" := by
  unfold superfluous
  have h : ∀ (l : List Nat),
      List.foldl (fun (best : Option Nat) i => if "".toList.contains (p.toList[i]!) then some i else best) none l = none := by
    intro l
    induction l with
    | nil => rfl
    | cons x xs ih => simpa using ih
  simp only [h]

/-- every candidate the template's completion function collects extends the typed text -/
theorem template_offers_extend (S : BashRt.Script) (q : Nat) (prefix_ : String) (c : String)
    (h : c ∈ BashRt.offer S q prefix_) : BashRt.isPrefix prefix_.toList c.toList = true :=
  BashRt.offer_extends S q prefix_ c h

/-- when the earlier words cannot be read, nothing is offered (return code 1) -/
theorem template_unmatched_silent (S : BashRt.Script) (start : Nat) (words : List String) (prefix_ wb : String)
    (h : BashRt.walk S start words = .unmatched) : BashRt.complete S start words prefix_ wb = none := by
  simp [BashRt.complete, h]

open Complgen.Tables Complgen.TemplateDfa in
/-- **The emitted bash script interprets the automaton — the literal part** (`Proofs/TemplateDfa.lean`,
over the model of the template `Model/BashRt.lean` running on the model of the emitted tables
`Model/Tables.lean`, both compared with the real bash / the real script on every run): for a `Dfa`
whose states reachable through literals carry only literal transitions and never two literals with
one text and different targets (C09's demand), the completion function returns code 1 exactly when
the earlier words spell no path of literal transitions from the start state; otherwise COMPREPLY
is, as a set, the stripped `text ++ " "` of the literal transitions out of the state reached that
extend the typed prefix at the least `||` level that has any. -/
theorem template_interprets_literals (d : Dfa) (out : Nat → List String)
    (honly : ∀ r, LitReach d.main d.main.start r → LitOnlyAt d.main r)
    (hdet : ∀ r, LitReach d.main d.main.start r → WordDetAt d.main r)
    (ws : List String) (p wb : String) :
    (BashRt.complete (ofDfa d out) d.main.start ws p wb = none ↔ ¬ ∃ q, LitPath d.main d.main.start ws q) ∧
    ∀ q, LitPath d.main d.main.start ws q →
      ∃ cs, BashRt.complete (ofDfa d out) d.main.start ws p wb = some cs ∧
        ∀ c, c ∈ cs ↔ ∃ m, Cand d.main q p m ∧ c = strip p wb m :=
  ofDfa_complete_literals d out honly hdet ws p wb

open Complgen.Tables Complgen.TemplateDfa in
/-- a typed word that is a literal expected at the current state moves to that literal's target — whatever
else is expected there (the literal has priority) — when the state has no two literals with that
text and different targets -/
theorem template_reads_literal (d : Dfa) (out : Nat → List String) {q : Nat} {w : String}
    {dsc : Option String} {lvl t : Nat}
    (he : HasEdge d.main q (.lit w dsc lvl) t) (hdet : WordDetAt d.main q) :
    (BashRt.readWord (ofDfa d out) q w).1 = some t :=
  ofDfa_readWord_literal d out he hdet

open Complgen.Tables Complgen.TemplateDfa in
/-- that hypothesis is needed: with `a "x"` and `a "y"` leading to different states no script can follow
both (the same finding as C09's, seen from the template) -/
theorem template_needs_word_determinism (S : BashRt.Script) :
    ¬ ∀ (dsc : Option String) (lvl t : Nat),
      HasEdge cexWord 0 (.lit "a" dsc lvl) t → (BashRt.readWord S 0 "a").1 = some t :=
  readWord_literal_needs_wordDet' S

open Complgen.Tables Complgen.TemplateDfa Complgen.TemplateDfaAll in
/-- **The emitted bash script interprets the automaton — every kind of item** (`Proofs/TemplateDfaAll.lean`):
at arbitrary states.  A complete earlier word is read by priority — a literal with that text; else a
within-word automaton expected here whose function matches the word; else a command expected here
that prints the word; else the any-word transition (`DStep`); the walk over the earlier words is the
run of that step relation, with the last-word heuristic as the model has it (`DRun`); and when every
reachable state has one reading per word, the completion function returns code 1 exactly when that
run fails, and otherwise COMPREPLY is, as a set, the stripped candidates — literals (text + blank),
completions inside a word, output lines of commands, all extending the typed prefix — of the least
`||` level that has any, at the state the run ends in.  (The within-word matcher itself stays
abstract here; C12's theorems are about it.) -/
theorem template_interprets_automaton (d : Dfa) (out : Nat → List String)
    (hdet : ∀ q, DReach d out d.main.start q → ∀ w, DStepDetAt d out q w)
    (ws : List String) (p wb : String) :
    (BashRt.complete (ofDfa d out) d.main.start ws p wb = none ↔ DRun d out d.main.start ws .unmatched) ∧
    ∀ q, DRun d out d.main.start ws (.state q) →
      ∃ cs, BashRt.complete (ofDfa d out) d.main.start ws p wb = some cs ∧
        ∀ c, c ∈ cs ↔ ∃ m, DOffered d out q p m ∧ c = strip p wb m :=
  ofDfa_complete_spec d out hdet ws p wb

open Complgen.Tables Complgen.TemplateDfaAll in
/-- without any determinism hypothesis: what the script does on the earlier words is always *a* run of
the automaton by that priority rule -/
theorem template_walk_is_a_run (d : Dfa) (out : Nat → List String) (ws : List String) (q0 : Nat) :
    DRun d out q0 ws (BashRt.walk (ofDfa d out) q0 ws) :=
  ofDfa_walk_sound d out ws q0

open Complgen.TemplateDfaAll in
/-- bash's `readarray -t candidates`, which overwrites the accumulated literal candidates after a level
with commands, never changes what is offered: the loop with and without the overwriting give the
same list, for all tables -/
theorem template_overwritten_array_harmless (S : BashRt.Script) (q : Nat) (p : String) :
    offerAcc S q p = BashRt.offer S q p :=
  offerAcc_eq_offer S q p

open Complgen.Tables Complgen.TemplateDfa Complgen.SubwordDfa in
/-- **The within-word matcher follows the within-word automaton** (`Proofs/SubwordDfa.lean`), in the class the
property is stated for: a within-word automaton whose transitions carry non-empty literals, prefix-free
at every state and with one target per text.  The function `_<cmd>_subword_N matches` accepts a word
exactly when the word is the concatenation of the texts of a path of transitions from the start state
(there are no accepting states in the tables: the recorded finding); in complete mode it stops after
the longest readable part and offers `matched ++ literal` for the literals expected there that extend
the rest, at the least `||` level that has any. -/
theorem within_word_matcher_follows_automaton (s : Auto) (cmds : List String) (out : Nat → List String)
    (hstart : s.start = 0) (honly : ∀ q, LitOnlyAt s q) (hne : ∀ q, LitNonEmptyAt s q)
    (hpf : ∀ q, PrefixFreeAt s q) (hdet : ∀ q, WordDetAt s q) (word : String) :
    (BashRt.subMatches (ofAuto s cmds fun _ => none) out word = true ↔
      ∃ t, SubPath s s.start word.toList t) ∧
    ∃ q i, ReadsTo s s.start word.toList q i ∧
      ∀ c, c ∈ BashRt.subComplete (ofAuto s cmds fun _ => none) out word ↔
        SubCand s q (String.ofList (word.toList.take i)) (word.toList.drop i) c :=
  ⟨ofAuto_subMatches_iff s cmds out hstart honly hne hpf hdet word,
   ofAuto_subComplete_mem s cmds out hstart honly hne hpf word⟩

open Complgen.SubwordDfa in
/-- prefix-freeness is needed (it is the class C12 treats separately): with `a`, `ab` expected at one state
and `bc` after `a`, the word `abc` is a path of the automaton and the one-pass matcher misses it -/
theorem within_word_needs_prefix_free :
    ¬ ∀ (T : BashRt.Tables) (s : Auto) (word : String), SubOf T s → s.start = 0 →
      (∃ t, SubPath s s.start word.toList t) → BashRt.subMatches T (fun _ => []) word = true :=
  subMatches_iff_needs_prefixFree

end Complgen.Props.C01
