/-
C11 — the definition chosen for a nonterminal is the one for the target shell.

`Spec.pick` is the statement written outright (spec@S ▸ plain ▸ built-in PATH/DIRECTORY ▸ any word;
built-in table regenerated from check.rs on every run).  Proved here, for every grammar:
definitions for other shells never influence the choice; a plain definition overrides the built-in
meaning; a specialisation for the target shell wins over everything.  And for the model of the code
(`Check.specialize` = check.rs `specialize_nonterminals` fed by parse.rs `get_specializations`, tied
to the library exactly on every run): `choice_spec` — whenever the specialisation tables are accepted,
the pass replaces *every* nonterminal reference of an expression (top level, inside a word, in a
definition body — wherever it stands) by exactly what `Spec.pick` prescribes, whatever `used` flags
and unused-bookkeeping it has accumulated on the way.  The check compares the real library's
automaton and the four real scripts with `Spec.pick` on the whole definition table.
-/
import Complgen.Spec.Den
import Complgen.Proofs.Choice
namespace Complgen.Props.C11
open Complgen Complgen.Spec

/-- the specialisation of `name` for `sh` that `pick` looks at -/
def specFor (sh : Shell) (name : String) : Stmt → Option String
  | .defn n _ (some (s, _)) (.cmd c _ _ _) => if n == name && s == sh.name then some c else none
  | _ => none

def plainFor (name : String) : Stmt → Option Expr
  | .defn n _ none e => if n == name then some e else none
  | _ => none

theorem pick_unfold (sh : Shell) (g : Grammar) (name : String) :
    pick sh g name =
      match g.findSome? (specFor sh name) with
      | some c => .command c (sh == .zsh)
      | none =>
        match g.findSome? (plainFor name) with
        | some e => .expr e
        | none =>
          match (Gen.builtinTable.find? (fun r => r.1 == name && r.2.1 == sh)).map (·.2.2) with
          | some c => .command c (sh == .zsh)
          | none => .anyWord := by
  rfl

/-- a statement that is a definition for a shell other than `sh` -/
def forOtherShell (sh : Shell) : Stmt → Bool
  | .defn _ _ (some (s, _)) _ => s != sh.name
  | _ => false

/-- **Definitions for other shells never influence the result.** -/
theorem other_shells_irrelevant (sh : Shell) (g : Grammar) (name : String) :
    pick sh (g.filter (fun st => !forOtherShell sh st)) name = pick sh g name := by
  -- a statement filtered out is a definition for a shell whose name differs from `sh.name`
  refine Check.pick_filter sh g name _ (fun st _ hst => ?_) (fun st _ hst => ?_)
  · match st with
    | .call .. | .defn _ _ none _ => rfl
    | .defn n _ (some (s, _)) e =>
      have hne : (s == sh.name) = false := by simpa [forOtherShell] using hst
      cases e <;> simp [Check.specFor, hne]
  · match st with
    | .call .. | .defn _ _ (some _) _ => rfl
    | .defn _ _ none _ => simp [forOtherShell] at hst

/-- **A specialisation for the target shell wins** over a plain definition and over the built-in. -/
theorem spec_wins (sh : Shell) (g : Grammar) (name c : String)
    (h : g.findSome? (specFor sh name) = some c) : pick sh g name = .command c (sh == .zsh) := by
  rw [pick_unfold, h]

/-- **A plain definition overrides the built-in meaning** (and is what `<X>` stands for when there
is no specialisation for the target shell). -/
theorem plain_overrides_builtin (sh : Shell) (g : Grammar) (name : String) (e : Expr)
    (h1 : g.findSome? (specFor sh name) = none) (h2 : g.findSome? (plainFor name) = some e) :
    pick sh g name = .expr e := by
  rw [pick_unfold, h1, h2]

/-- without any definition: the built-in command for PATH / DIRECTORY, otherwise any word -/
theorem undefined_is_builtin_or_any (sh : Shell) (g : Grammar) (name : String)
    (h1 : g.findSome? (specFor sh name) = none) (h2 : g.findSome? (plainFor name) = none) :
    pick sh g name = (match (Gen.builtinTable.find? (fun r => r.1 == name && r.2.1 == sh)).map (·.2.2) with
      | some c => .command c (sh == .zsh)
      | none => .anyWord) := by
  rw [pick_unfold, h1, h2]

/-- the built-in table (regenerated from check.rs) covers exactly PATH and DIRECTORY, for every shell -/
theorem builtin_names : (Gen.builtinTable.map (·.1)).eraseDups = ["PATH", "DIRECTORY"] ∧
    Gen.builtinTable.length = 8 := by decide

/-- **The model of the specialisation pass implements `Spec.pick` at every reference.** -/
theorem choice_spec (g : Grammar) (sh : Shell) (specs : Check.AList Check.UserSpec) (fbs : Check.AList String)
    (h : Check.getSpecializations g sh = .ok (specs, fbs)) (e : Expr) (b : Check.Book)
    (hb : Check.SameCmds specs b) :
    (Check.specialize sh fbs ((Check.plainDefs g).map (·.1)) e b).1 = Check.applyPick sh g e ∧
    Check.SameCmds specs (Check.specialize sh fbs ((Check.plainDefs g).map (·.1)) e b).2 :=
  Check.specialize_eq_applyPick g sh specs fbs h e b hb

/-- the book the pass starts with satisfies the invariant -/
theorem choice_spec_init (specs : Check.AList Check.UserSpec) (unused : Check.AList Span) :
    Check.SameCmds specs ⟨specs, unused⟩ := fun _ => rfl

/-- at a single reference: the chosen command with zsh's `compadd` flag, or the reference left for
expansion / as "any word" -/
theorem choice_at_reference (g : Grammar) (sh : Shell) (name : String) (l : Nat) (s : Span) :
    Check.applyPick sh g (.nonterm name l s) =
      match pick sh g name with
      | .command c a => .cmd c a l s
      | _ => .nonterm name l s := by
  unfold Check.applyPick
  cases pick sh g name <;> rfl

/-- Non-vacuity: a grammar with `<X@bash>` and a plain `<X>` has accepted tables for bash. -/
example :
    let g : Grammar := [.call "cmd" default (.nonterm "X" 0 default),
                        .defn "X" default (some ("bash", default)) (.cmd "echo b" false 0 default),
                        .defn "X" default none (.cmd "echo p" false 0 default)]
    (match Check.getSpecializations g .bash with | .ok _ => true | _ => false) = true := by
  decide

end Complgen.Props.C11
