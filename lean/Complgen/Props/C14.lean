/-
C14 — layout and statement order do not change the output.

The layout half: `layout_irrelevant` (`Proofs/SpansFull.lean`) — on the operator ladder (literals,
nonterminals, commands, juxtaposition by blanks, `|`, `||`, `[ ]`, postfix `...`, parentheses) two texts
of one tree that differ only in their layout (any blanks, form feeds, line breaks and closed `#`
comments at every position between the tokens) are parsed by `fallback_expr` into trees that differ
in spans only; with `span_irrelevant_meaning` below, into grammars of the same meaning.
`grammar_layout_irrelevant` and `grammar_layout_irrelevant_full` say the same of whole files, for the
operator ladder and for the larger fragment (escaped literals, descriptions, words by juxtaposition),
under every admissible layout, the layout between statements included.  Outside the two fragments
(blanks inside `{{{ }}}`, redundant parentheses) the layout half is decided per grammar by the run.
Proved further:
`span_irrelevant_meaning` — spans never influence the *meaning* the specification assigns (the
automaton of the grammar's meaning is built from a span-free regular expression);
`meaning_order_irrelevant` — `Spec.meaning` is the same for every permutation of the statements that
keeps the call variants in order, when no name is defined twice; `defn_order_irrelevant` — hence
(through `Check.validate_expr_eq_meaning`) the model of check.rs returns the same validated expression
for two such grammars whenever it accepts both — the same automaton and the same scripts.
-/
import Complgen.Spec.Den
import Complgen.Proofs.Order
import Complgen.Proofs.SpansFull
import Complgen.Proofs.Statements
import Complgen.Proofs.SpansFile
namespace Complgen.Props.C14
open Complgen Complgen.Spec

mutual
theorem toSRx_eraseSpans (wk : Expr → String) (hwk : ∀ c, wk c.eraseSpans = wk c) :
    ∀ e : Expr, toSRx wk e.eraseSpans = toSRx wk e
  | .term .. | .nonterm .. | .cmd .. => rfl
  | .sub c l _ => by simp only [Expr.eraseSpans, toSRx, hwk]
  | .seq cs _ => toSRxCat_eraseSpans wk hwk cs
  | .alt cs _ | .fb cs _ => toSRxAlt_eraseSpans wk hwk cs
  | .opt c _ => congrArg (SRx.alt · .eps) (toSRx_eraseSpans wk hwk c)
  | .many1 c _ => congrArg (fun r => SRx.mkCat r (.star r)) (toSRx_eraseSpans wk hwk c)
  | .dd c _ _ => toSRx_eraseSpans wk hwk c
theorem toSRxCat_eraseSpans (wk : Expr → String) (hwk : ∀ c, wk c.eraseSpans = wk c) :
    ∀ es : ExprL, toSRxCat wk es.eraseSpans = toSRxCat wk es
  | .nil => rfl
  | .cons e es => by
    simp only [ExprL.eraseSpans, toSRxCat, toSRx_eraseSpans wk hwk e, toSRxCat_eraseSpans wk hwk es]
theorem toSRxAlt_eraseSpans (wk : Expr → String) (hwk : ∀ c, wk c.eraseSpans = wk c) :
    ∀ es : ExprL, toSRxAlt wk es.eraseSpans = toSRxAlt wk es
  | .nil => rfl
  | .cons e .nil => toSRx_eraseSpans wk hwk e
  | .cons e (.cons e' es) =>
    show SRx.alt _ _ = SRx.alt _ _ from
      congr (congrArg SRx.alt (toSRx_eraseSpans wk hwk e)) (toSRxAlt_eraseSpans wk hwk (.cons e' es))
end

/-- **Spans do not influence the meaning**: the regular expression of an expression and of the
same expression with every source location erased coincide (for any span-blind naming of words). -/
theorem span_irrelevant_meaning (e : Expr) :
    toSRx (fun _ => "?") e.eraseSpans = toSRx (fun _ => "?") e :=
  toSRx_eraseSpans _ (fun _ => rfl) e

/-- **The meaning does not depend on the order of the statements** (call variants kept in order, no
name defined twice for the shell / plainly — `Check.UniqueDefs`, which validation enforces:
`Check.uniqueDefs_of_validate`). -/
theorem meaning_order_irrelevant (sp : Span) (sh : Shell) (g g' : Grammar) (hp : g.Perm g')
    (hu : Check.UniqueDefs sh g) (hc : callBodies g' = callBodies g) :
    meaningAt sp g' sh = meaningAt sp g sh :=
  Check.meaningAt_perm sp sh g g' hp hu hc

/-- **Permuting the definitions does not change what the model of check.rs returns.** -/
theorem defn_order_irrelevant (g g' : Grammar) (sh : Shell) (v v' : Check.Valid) (hp : g.Perm g')
    (hc : Check.callsOf g' = Check.callsOf g) (h : Check.validate g sh = .ok v)
    (h' : Check.validate g' sh = .ok v') : v'.expr = v.expr :=
  Check.validate_perm g g' sh v v' hp hc h h'

/-- **Layout does not change the tree** (operator ladder): two admissible layouts of one tree are parsed
as trees that differ in their spans only. -/
theorem layout_irrelevant (e : Expr) (hnf : Parse.NF e) (lay₁ lay₂ : Parse.Layout)
    (adm₁ : lay₁.Adm) (adm₂ : lay₂.Adm)
    (rest₁ rest₂ : List Char) (hrest₁ : Parse.Follows rest₁) (hrest₂ : Parse.Follows rest₂)
    (s₁ s₂ : Parse.PState)
    (hs₁ : s₁.rest = Parse.ppL lay₁ 0 e ++ rest₁) (hs₂ : s₂.rest = Parse.ppL lay₂ 0 e ++ rest₂)
    (fuel₁ fuel₂ : Nat) (hfuel₁ : Parse.fuelNeeded e ≤ fuel₁) (hfuel₂ : Parse.fuelNeeded e ≤ fuel₂) :
    ∃ e₁ e₂, Parse.fallback fuel₁ s₁ = some (s₁.adv (Parse.ppL lay₁ 0 e).length, e₁) ∧
      Parse.fallback fuel₂ s₂ = some (s₂.adv (Parse.ppL lay₂ 0 e).length, e₂) ∧
      e₁.eraseSpans = e₂.eraseSpans :=
  Parse.layout_irrelevant e hnf lay₁ lay₂ adm₁ adm₂ rest₁ rest₂ hrest₁ hrest₂ s₁ s₂ hs₁ hs₂
    fuel₁ fuel₂ hfuel₁ hfuel₂

/-- **Layout does not change the grammar** (whole files, `Proofs/SpansFile.lean`): two texts of one
list of statements over the operator ladder that differ only in layout — at the beginning of the
file, after statement names, around `::=` / `=` (and in the choice between the two signs), inside the
expressions, before `;`, between statements, in the presence of the final `;` — are parsed by the
model of `Grammar::parse` into grammars that differ in spans only. -/
theorem grammar_layout_irrelevant (g : Grammar) (hg : ∀ st ∈ g, Parse.StmtNF st) (G₁ G₂ : Parse.GLayout)
    (adm₁ : G₁.Adm g) (adm₂ : G₂.Adm g) :
    ∃ g₁ g₂, Parse.parse (Parse.ppGrammarL G₁ g) = .ok g₁ ∧ Parse.parse (Parse.ppGrammarL G₂ g) = .ok g₂ ∧
      g₁.map Stmt.eraseSpans = g₂.map Stmt.eraseSpans :=
  Parse.grammar_layout_irrelevant g hg G₁ G₂ adm₁ adm₂

/-- **Layout does not change the grammar — the larger fragment** (`Proofs/SpansFile.lean`): whole files
whose expressions use escaped literals, descriptions, descriptions over groups and words by
juxtaposition besides the operators; layout may additionally stand before a description. -/
theorem grammar_layout_irrelevant_full (g : Grammar) (hg : ∀ st ∈ g, Parse.Full.StmtNF' st)
    (G₁ G₂ : Parse.Full.GLayout') (adm₁ : G₁.Adm g) (adm₂ : G₂.Adm g) :
    ∃ g₁ g₂, Parse.parse (Parse.Full.ppGrammarL' G₁ g) = .ok g₁ ∧
      Parse.parse (Parse.Full.ppGrammarL' G₂ g) = .ok g₂ ∧
      g₁.map Stmt.eraseSpans = g₂.map Stmt.eraseSpans :=
  Parse.grammar_layout_irrelevant_full g hg G₁ G₂ adm₁ adm₂

end Complgen.Props.C14
