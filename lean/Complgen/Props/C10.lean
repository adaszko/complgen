/-
C10 — output is a pure function of the input.

What a theorem can carry (DESIGN.md §3 C10):
* `schedule_irrelevant` — the *meaning* of the compiled automaton never depends on the order in
  which the work-list of the subset construction is processed (any two schedules give automata
  with the same language);
* `nondet_sources_ok` — the inventory of order-bearing containers and of run-time reads,
  regenerated from src/*.rs, Cargo.toml and Cargo.lock on every run, contains no randomly seeded
  hash container (std `HashMap`/`HashSet`/`RandomState`), no read of the environment, clock,
  thread/process id, pointer value or RNG, and the direct `hashbrown` requirement is the 0.13 line
  (default hasher `BuildHasherDefault<AHasher>`: fixed keys).
* `hash_impls_paired`, `eq_impls_paired` — on the same inventory, a type that hashes by hand compares
  by hand, and none compares by hand next to a derived `Hash`;
* `minimised_size_schedule_irrelevant` — size and language of the minimiser's result do not depend
  on the order in which its work-list is processed.
Byte identity across processes itself is observed by the run (fresh processes, differing
environments), not proved: the model cannot exhibit a hasher seed.
-/
import Complgen.Proofs.Subset
import Complgen.Gen.Nondet
import Complgen.Proofs.EndToEnd
namespace Complgen.Props.C10
open Complgen

theorem schedule_irrelevant (σ σ' : Schedule) (r : Regex) (symOf : Nat → Option Inp) (a a' : Auto)
    (hsym : ∀ p, p < r.inputs.length → (symOf p).isSome)
    (hend : symOf r.endPos = none)
    (hfollow : ∀ p q, q ∈ r.follow p → q ≤ r.endPos)
    (hfirst : ∀ q ∈ r.first, q ≤ r.endPos)
    (h : buildAuto σ r symOf = some a) (h' : buildAuto σ' r symOf = some a') :
    ∀ w : List Inp, a.acceptsInp w = a'.acceptsInp w := by
  intro w
  rw [Bool.eq_iff_iff, buildAuto_correct σ r symOf a hend hfollow hfirst h w,
    buildAuto_correct σ' r symOf a' hend hfollow hfirst h' w]

def fixedOrder : List String := ["hashbrown", "indexmap", "std-btree", "ustr", "roaring"]

theorem nondet_sources_ok :
    (Gen.containers.all fun c => fixedOrder.contains c.2.2) = true ∧
    Gen.runtimeReads = [] ∧
    (Gen.lockVersions.any fun v => v.1 == "hashbrown-direct" && (v.2.take 5).toString == "0.13.") = true := by
  refine ⟨by decide, by decide, ?_⟩
  decide

/-- every type that hashes by hand also compares by hand: a hand-written `Hash` next to a derived
`PartialEq` is how equality and hash of `InpInternPool` drifted apart (keys of a randomly seeded
`IndexSet`; repaired in 131db37).  Decided on the inventory regenerated from the current source. -/
theorem hash_impls_paired : (Gen.handHash.all fun t => Gen.handEq.contains t) = true := by decide

/-- … and conversely no type compares by hand while its `Hash` is derived: a hand-written equality that
ignores a field next to a derived hash that includes it makes set membership depend on the random
seed of the process (keys that compare equal land in different buckets except by chance). -/
theorem eq_impls_paired :
    (Gen.handEq.all fun t => Gen.handHash.contains t || !Gen.derivedHash.contains t) = true := by decide

/-- the minimiser's result does not depend, in size or language, on the iteration order of its hash
containers: both results are smallest automata of the same language (`Proofs/HopcroftCard.lean`) -/
theorem minimised_size_schedule_irrelevant (σ₁ σ₂ : Schedule) (a m₁ m₂ : Auto) (hwf : Min.WF a)
    (hco : Min.CoAcc a) (hacc : Min.Access a) (h₁ : Min.minimize σ₁ a = some m₁)
    (h₂ : Min.minimize σ₂ a = some m₂) :
    m₁.states.length = m₂.states.length ∧ ∀ w, m₁.accepts w = m₂.accepts w :=
  Min.minimised_size_language_only σ₁ σ₂ a a m₁ m₂ hwf hco hacc hwf hco hacc (fun _ => rfl) h₁ h₂

end Complgen.Props.C10
