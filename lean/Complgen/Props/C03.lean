/-
C03 — minimisation preserves the language and yields the trim minimal automaton.

Proved here: soundness of the certificate checkers that the check runs on every (raw, minimised)
pair the real library produces — a pair that passes has equal languages and a minimised automaton
with no unreachable state, no dead state and no two equivalent states, hence of minimal size.
And over the model of `do_minimize` itself (`Model/Min.lean`: Hopcroft's partition refinement on the
automaton completed with the dead state 0, for *every* iteration order of its hash containers, then
the quotient, the two clean-up passes and the renumbering): `hopcroft_preserves_language` — whenever
`minimize` returns, the result accepts exactly the words of the input, for every well-formed input
automaton (`Min.WF`: state 0 unused, deterministic transitions, input indices in range, accepting
states reachable); `hopcroft_partition_stable` — the partition it ends with is a congruence that
never mixes accepting and non-accepting states (`Proofs/Hopcroft.lean`).
`minimiser_terminates` — on every well-formed automaton the refinement loop ends within the fuel the
model gives it (`2·N² + 2` rounds for the `N` states of the completed automaton; `N` are enough,
since `work.length + (N − parts.length)` falls with every round), so the hypothesis
`minimize σ a = some m` of the other theorems is always met (`Proofs/HopcroftTerm.lean`).
Minimality over the model (`Proofs/HopcroftMin.lean`): `minimised_is_reduced` — when every state of
the input can reach acceptance, any two different states of the result are told apart by a word
(the blocks of the partition stay pairwise distinguishable, for every schedule: every splitter is a
union of blocks, so the two halves of a split are told apart by a word); `minimised_is_accessible` —
when every state of the input is reachable, so is every state of the result; `built_automaton_trim`
(`Proofs/BuildWF.lean`) — what the subset construction builds from a regular expression without
empty alternation *is* reachable and co-reachable, for every schedule; hence
`minimised_built_is_minimal` — the minimised automaton of every compiled expression is reduced and
accessible, i.e. the minimal automaton of its language; `minimised_is_trim` — every state of the
result is reachable and can reach acceptance; and the cardinality form (`Proofs/HopcroftCard.lean`,
a Myhill–Nerode argument for partial automata): `minimised_is_smallest` /
`minimised_built_is_smallest` — *no automaton whatever that accepts the same words has fewer states*
than the minimiser's result.  Both hypotheses are needed, with
counterexamples (`coacc_needed`, `access_needed`): the real code keeps the dead state 0 in a block of
its own, so states that cannot reach acceptance are not merged with it — the compiler never produces
such states.
-/
import Complgen.Proofs.Cert
import Complgen.Proofs.Hopcroft
import Complgen.Proofs.BuildWF
import Complgen.Proofs.HopcroftTerm
import Complgen.Proofs.HopcroftMin
import Complgen.Proofs.HopcroftCard
import Complgen.Proofs.EndToEnd
namespace Complgen.Props.C03
open Complgen.Cert

/-- language preservation, given a checked bisimulation between raw and minimised -/
theorem language_preserved (raw min : KAuto) (R : List (Nat × Nat))
    (h : bisimCheck raw min R = true) : ∀ w, raw.accepts w = min.accepts w :=
  bisim_sound raw min R h

/-- every state of a certified automaton is reachable and can reach acceptance -/
theorem trim (a : KAuto) (access co : List (Nat × List String))
    (ha : accessCheck a access = true) (hc : coaccessCheck a co = true) :
    ∀ s ∈ a.states, (∃ w, a.runFrom a.start w = some s) ∧ (∃ w, a.acceptsFrom s w = true) :=
  fun s hs => ⟨access_sound a access ha s hs, coaccess_sound a co hc s hs⟩

/-- no two states of a certified automaton accept the same continuations -/
theorem reduced (a : KAuto) (dist : List ((Nat × Nat) × List String))
    (h : distinctCheck a dist = true) :
    ∀ p ∈ a.states, ∀ q ∈ a.states, p ≠ q → ∃ w, a.acceptsFrom p w ≠ a.acceptsFrom q w :=
  distinct_sound a dist h

/-- a certified automaton has the size of the minimal automaton of its language -/
theorem minimal_size (a : KAuto) (access co : List (Nat × List String))
    (dist : List ((Nat × Nat) × List String))
    (ha : accessCheck a access = true) (hc : coaccessCheck a co = true)
    (hd : distinctCheck a dist = true) (b : KAuto) (hL : ∀ w, b.accepts w = a.accepts w) :
    a.states.length ≤ b.states.length :=
  minimal_card a access co dist ha hc hd b hL

/-- Non-vacuity: a three-state automaton for `a b* ` passes all checks. -/
example :
    let a : KAuto := { start := 0, trans := [(0, "a", 1), (1, "b", 1), (1, "c", 2)], acc := [2] }
    accessCheck a [(0, []), (1, ["a"]), (2, ["a", "c"])] = true ∧
    coaccessCheck a [(0, ["a", "c"]), (1, ["c"]), (2, [])] = true ∧
    distinctCheck a [((0, 1), ["c"]), ((0, 2), []), ((1, 2), [])] = true := by decide

open Complgen in
/-- **The model of the minimiser preserves the language, for every schedule of its work-list.** -/
theorem hopcroft_preserves_language (σ : Schedule) (a m : Auto) (hwf : Min.WF a) (h : Min.minimize σ a = some m) :
    ∀ w : List Nat, m.accepts w = a.accepts w :=
  Min.minimize_lang σ a m hwf h

open Complgen in
/-- the partition the refinement ends with: blocks cover all states, are disjoint, never mix accepting
and non-accepting states, and states of one block step into one common block on every input -/
theorem hopcroft_partition_stable (σ : Schedule) (a : Auto) (P : List Min.Block) (hwf : Min.WF a)
    (h : Min.partition σ a = some P) : Min.PInv a P ∧ Min.Stable a P :=
  Min.partition_stable σ a P hwf h

open Complgen in
/-- what the subset construction builds is well-formed (states numbered from 1, deterministic, input
indices in range, every accepting state reachable) -/
theorem built_automaton_wf (σ : Schedule) (r : Regex) (symOf : Nat → Option Inp) (a : Auto)
    (h : buildAuto σ r symOf = some a) : Min.WF a :=
  buildAuto_WF σ r symOf a h

open Complgen in
/-- **Minimising the automaton the compiler builds preserves its language**, for every schedule of the
subset construction and every schedule of the minimiser. -/
theorem minimize_built_automaton (σ σ' : Schedule) (r : Regex) (symOf : Nat → Option Inp) (a m : Auto)
    (h : buildAuto σ r symOf = some a) (hm : Min.minimize σ' a = some m) :
    ∀ w : List Nat, m.accepts w = a.accepts w :=
  minimize_buildAuto_lang σ σ' r symOf a m h hm

open Complgen in
/-- **The minimiser terminates**: on a well-formed automaton the model's refinement loop never runs
out of its fuel, for any schedule. -/
theorem minimiser_terminates (σ : Schedule) (a : Auto) (hwf : Min.WF a) :
    (Min.minimize σ a).isSome = true :=
  Min.minimize_isSome σ a hwf

open Complgen in
/-- **No two states of the minimised automaton are equivalent**, when every state of the input can
reach acceptance. -/
theorem minimised_is_reduced (σ : Schedule) (a m : Auto) (hwf : Min.WF a) (hco : Min.CoAcc a)
    (h : Min.minimize σ a = some m) :
    ∀ p ∈ m.states, ∀ q ∈ m.states, p ≠ q → ∃ w : List Nat, Min.accFrom m p w ≠ Min.accFrom m q w :=
  Min.minimize_reduced σ a m hwf hco h

open Complgen in
/-- **Every state of the minimised automaton is reachable**, when every state of the input is. -/
theorem minimised_is_accessible (σ : Schedule) (a m : Auto) (hwf : Min.WF a) (hacc : Min.Access a)
    (h : Min.minimize σ a = some m) :
    ∀ q ∈ m.states, ∃ w : List Nat, m.run m.start w = some q :=
  Min.minimize_accessible σ a m hwf hacc h

open Complgen in
/-- what the subset construction builds is trim: every state reachable (always), and every state
able to reach acceptance when the expression has no empty alternation, every position a symbol and
the end marker none -/
theorem built_automaton_trim (σ : Schedule) (r : Regex) (symOf : Nat → Option Inp) (a : Auto)
    (hl : r.root.Linear) (hpos : ∀ q ∈ r.root.positions, q < r.endPos) (hne : r.root.NoEmptyOr)
    (hsym : ∀ p, p < r.inputs.length → (symOf p).isSome) (hend : symOf r.endPos = none)
    (h : buildAuto σ r symOf = some a) : Min.Access a ∧ Min.CoAcc a :=
  ⟨buildAuto_access σ r symOf a h, buildAuto_coacc σ r symOf a hl hpos hne hsym hend h⟩

open Complgen in
/-- **The minimised automaton of a compiled expression is the minimal one**: reduced and accessible,
for every schedule of the subset construction and of the minimiser. -/
theorem minimised_built_is_minimal (σ σ' : Schedule) (e : Expr) (pool : RxPool)
    (symOf : Nat → Option Inp) (a m : Auto) (hne : e.NoEmptyAlt)
    (hsym : ∀ p, p < e.leafCount → (symOf p).isSome) (hend : symOf e.leafCount = none)
    (h : buildAuto σ (Regex.ofExpr e pool).1 symOf = some a) (hm : Min.minimize σ' a = some m) :
    (∀ p ∈ m.states, ∀ q ∈ m.states, p ≠ q →
      ∃ w : List Nat, Min.accFrom m p w ≠ Min.accFrom m q w) ∧
    (∀ q ∈ m.states, ∃ w : List Nat, m.run m.start w = some q) :=
  minimize_raw_reduced_accessible σ σ' e pool symOf a m hne hsym hend h hm

open Complgen in
/-- the hypothesis of `minimised_is_reduced` is needed: a well-formed, accessible automaton with two
states that cannot reach acceptance keeps two equivalent states -/
theorem coacc_needed : Min.WF Min.exNotReduced ∧ Min.Access Min.exNotReduced ∧
    ∀ m, Min.minimize fifo Min.exNotReduced = some m →
      2 ∈ m.states ∧ 3 ∈ m.states ∧ ∀ w, Min.accFrom m 2 w = Min.accFrom m 3 w :=
  ⟨Min.exNotReduced_WF, Min.exNotReduced_access, Min.exNotReduced_spec⟩

open Complgen in
/-- the hypothesis of `minimised_is_accessible` is needed -/
theorem access_needed : Min.WF Min.exNotAccessible ∧ Min.CoAcc Min.exNotAccessible ∧
    ∀ m, Min.minimize fifo Min.exNotAccessible = some m →
      2 ∈ m.states ∧ ∀ w, m.run m.start w ≠ some 2 :=
  ⟨Min.exNotAccessible_WF, Min.exNotAccessible_coacc, Min.exNotAccessible_spec⟩

open Complgen in
/-- **The minimised automaton is trim**: every state reachable and able to reach acceptance. -/
theorem minimised_is_trim (σ : Schedule) (a m : Auto) (hwf : Min.WF a) (hco : Min.CoAcc a)
    (hacc : Min.Access a) (h : Min.minimize σ a = some m) :
    ∀ q ∈ m.states, (∃ u : List Nat, m.run m.start u = some q) ∧
      (∃ w : List Nat, Min.accFrom m q w = true) :=
  Min.minimize_trim σ a m hwf hco hacc h

open Complgen in
/-- the list of states of an automaton has no duplicates, so its length is the number of states -/
theorem states_counted_once (a : Auto) : a.states.Nodup := Min.states_nodup a

open Complgen in
/-- **Nothing smaller accepts the same words**: any automaton `b` with the language of the input has
at least as many states as the minimiser's result. -/
theorem minimised_is_smallest (σ : Schedule) (a m : Auto) (hwf : Min.WF a) (hco : Min.CoAcc a)
    (hacc : Min.Access a) (h : Min.minimize σ a = some m) (b : Auto)
    (hb : ∀ w : List Nat, b.accepts w = a.accepts w) : m.states.length ≤ b.states.length :=
  Min.minimize_minimal_card σ a m hwf hco hacc h b hb

open Complgen in
/-- **The minimised automaton of a compiled expression is the smallest automaton of its language**,
and every state of it can reach acceptance — for every schedule of both loops. -/
theorem minimised_built_is_smallest (σ σ' : Schedule) (e : Expr) (pool : RxPool)
    (symOf : Nat → Option Inp) (a m : Auto) (hne : e.NoEmptyAlt)
    (hsym : ∀ p, p < e.leafCount → (symOf p).isSome) (hend : symOf e.leafCount = none)
    (h : buildAuto σ (Regex.ofExpr e pool).1 symOf = some a) (hm : Min.minimize σ' a = some m) :
    (∀ q ∈ m.states, ∃ w : List Nat, Min.accFrom m q w = true) ∧
    ∀ b : Auto, (∀ w : List Nat, b.accepts w = a.accepts w) → m.states.length ≤ b.states.length :=
  minimize_raw_minimal_card σ σ' e pool symOf a m hne hsym hend h hm

open Complgen in
/-- **From source text to the minimal automaton**: for every text the parser model accepts, every
shell and every schedule for which the pipeline model produces a result, the minimised main
automaton accepts the words of the raw one, no two of its states are equivalent and all are
reachable — no hypothesis left (the parser never builds an empty alternation and validation never
creates one: `Proofs/NoEmptyAlt.lean`; the symbols of the positions are total: `Proofs/PipelineMin.lean`). -/
theorem compiled_is_minimal (σ : Schedule) (input : List Char) (g : Grammar) (sh : Shell)
    (c : Pipeline.Compiled) (hp : Parse.parse input = .ok g) (h : Pipeline.compile σ g sh = .ok c) :
    (∀ w, c.min.main.accepts w = c.raw.main.accepts w) ∧
    (∀ p ∈ c.min.main.states, ∀ q ∈ c.min.main.states, p ≠ q →
      ∃ w : List Nat, Min.accFrom c.min.main p w ≠ Min.accFrom c.min.main q w) ∧
    (∀ q ∈ c.min.main.states, ∃ w : List Nat, c.min.main.run c.min.main.start w = some q) :=
  Pipeline.compile_parsed_minimal σ input g sh c hp h

open Complgen in
/-- **… and the smallest**: every state can reach acceptance and no automaton accepting the same words
has fewer states. -/
theorem compiled_is_smallest (σ : Schedule) (input : List Char) (g : Grammar) (sh : Shell)
    (c : Pipeline.Compiled) (hp : Parse.parse input = .ok g) (h : Pipeline.compile σ g sh = .ok c) :
    (∀ q ∈ c.min.main.states, ∃ w : List Nat, Min.accFrom c.min.main q w = true) ∧
    ∀ b : Auto, (∀ w : List Nat, b.accepts w = c.raw.main.accepts w) →
      c.min.main.states.length ≤ b.states.length :=
  Pipeline.compile_parsed_smallest σ input g sh c hp h

open Complgen in
/-- the hypothesis that validation needs: it passes an empty alternation through when its input has
one (a tree the parser cannot produce) -/
theorem empty_alternation_only_from_outside :
    ∃ v, Check.validate Check.emptyAltGrammar .bash = .ok v ∧ ¬ v.expr.NoEmptyAlt :=
  Check.validate_keeps_empty_alt

open Complgen in
/-- **The within-word automata** of a compiled grammar: each is the minimised automaton of the automaton
built from a within-word expression of the pool, accepts its language, is accessible, and is
reduced when that expression has no empty alternation and no nested within-word input. -/
theorem within_word_automata_minimised (σ : Schedule) (g : Grammar) (sh : Shell) (c : Pipeline.Compiled)
    (h : Pipeline.compile σ g sh = .ok c) :
    c.raw.subs = c.min.subs ∧
    ∀ m ∈ c.min.subs, ∃ sr ∈ c.pool, ∃ raw,
      buildAuto σ sr (Pipeline.subSymOf sr) = some raw ∧ Min.minimize σ raw = some m ∧
      (∀ w : List Nat, m.accepts w = raw.accepts w) ∧
      (∀ q ∈ m.states, ∃ w : List Nat, m.run m.start w = some q) ∧
      (sr.root.NoEmptyOr → (∀ i ∈ sr.inputs, ∀ rid l sp, i ≠ RxInput.sub rid l sp) →
        ∀ p ∈ m.states, ∀ q ∈ m.states, p ≠ q →
          ∃ w : List Nat, Min.accFrom m p w ≠ Min.accFrom m q w) :=
  Pipeline.compile_subs_minimised σ g sh c h

end Complgen.Props.C03
