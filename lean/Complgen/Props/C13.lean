/-
C13 — diagnostics point at the construct they complain about.

The position bookkeeping of the parser model (`Parse.PState`: line and byte column of the first
character of the rest of the input, advanced character by character as nom_locate does) is what
every span of the tree is computed from; the run compares every span of the model's tree, and every
parse-error location, with the real parser's.  Proved (`Proofs/Position.lean`): advancing is additive
and never moves backwards, a span computed by `fromRange` starts exactly at the position of its first
character, and `adv_position` / `init_position` — the location reached after consuming any text `w`
is (line + number of line feeds in `w`, byte length of what follows the last line feed of `w`, from
1), whatever `w` contains (escapes, comments, non-ASCII text, form feeds).

And `span_sound` itself on the operator ladder (`Proofs/SpansFull.lean`): `span_sound_ladder` —
when the printed form of a tree of the fragment (literals, nonterminals, commands, juxtaposition, `|`,
`||`, `[...]`, postfix `...`, parentheses where precedence needs them) stands anywhere in a file,
`fallback_expr` returns that tree, and *every* node of it, in preorder, carries the span that starts at
the line (1 + line feeds before) and byte column (1 + bytes since the last line feed) of the offset of
the first character of that node's own text — the characters of the file between the node's two
offsets are the printed form of that node.  `span_sound_full` / `span_sound_file` (`Proofs/SpansFull.lean`, `SpansFile.lean`) extend it to the larger
fragment (escapes, descriptions, juxtaposition), to every admissible layout and to whole files
including the spans of statement heads.  Outside these fragments span soundness is decided per
grammar by the exact comparison of all spans with the real parser.
-/
import Complgen.Proofs.Position
import Complgen.Proofs.SpansFull
import Complgen.Proofs.SpansFile
namespace Complgen.Props.C13
open Complgen Complgen.Parse

theorem adv_add (s : PState) (m n : Nat) : (s.adv m).adv n = s.adv (m + n) := Pos.adv_add s m n

theorem adv_rest (s : PState) (n : Nat) : (s.adv n).rest = s.rest.drop n := Pos.adv_rest s n

theorem adv_line_mono (s : PState) (n : Nat) : s.line ≤ (s.adv n).line := Pos.adv_line_mono s n

theorem fromRange_start (before after : PState) :
    (fromRange before after).line = before.line ∧ (fromRange before after).cs = before.col :=
  Pos.fromRange_start before after

theorem fromMachine_start (s : PState) : (fromMachine s).line = s.line ∧ (fromMachine s).cs = s.col :=
  Pos.fromMachine_start s

theorem adv_col_same_line (s : PState) (w : List Char) (rest : List Char) (hs : s.rest = w ++ rest)
    (hw : '\n' ∉ w) : (s.adv w.length).line = s.line ∧ (s.adv w.length).col = s.col + bytesLen w :=
  Pos.adv_col_same_line s w rest hs hw

/-- **Location arithmetic**: after consuming the text `w`, the line is the old line plus the number of
line feeds in `w`, and the column is the byte length of what follows the last line feed of `w`,
counted from 1 — or from the old column when `w` has no line feed.  (Everything that precedes a token
decides its location, and nothing else does.) -/
theorem adv_position (w : List Char) (s : PState) (rest : List Char) (hs : s.rest = w ++ rest) :
    (s.adv w.length).line = s.line + w.count '\n' ∧
    (s.adv w.length).col = (if '\n' ∈ w then 1 else s.col) + bytesLen (Pos.lastLine w) :=
  Pos.adv_position w s rest hs

/-- in particular for a whole file read from its beginning (line 1, column 1) -/
theorem init_position (t w rest : List Char) (ht : t = w ++ rest) :
    ((PState.init t).adv w.length).line = 1 + w.count '\n' ∧
    ((PState.init t).adv w.length).col = 1 + bytesLen (Pos.lastLine w) :=
  Pos.init_position t w rest ht

/-- **Every span of the ladder points at its construct** (relative form): the tree `fallback_expr`
returns for the printed form of a tree of the fragment carries, at every node, the span of exactly
the text printed for that node (`Placed`: it starts at the state reached by consuming what was
printed before the node's first character — not counting a parenthesis the context forced around
it — and ends after its last character). -/
theorem span_sound_ladder_placed (e : Expr) (hnf : NF e) (rest : List Char) (hrest : Follows rest) (s : PState)
    (hs : s.rest = pp 0 e ++ rest) (fuel : Nat) (hfuel : fuelNeeded e ≤ fuel) :
    ∃ e', fallback fuel s = some (s.adv (pp 0 e).length, e') ∧ Placed 0 s e e' :=
  fallback_spans e hnf rest hrest s hs fuel hfuel

/-- the root of a placed tree starts where its text starts -/
theorem placed_root_start {s : PState} {e e' : Expr} (h : Placed 0 s e e') :
    e'.span.line = s.line ∧ e'.span.cs = s.col := h.span_top_start

/-- **Every span of the ladder points at its construct, in a file** (`span_sound` on the fragment):
the printed form of `e` stands in the file `t` after the text `pre`; then the parser started there
returns `e` up to spans; the spans of the result, node by node in preorder, are those between the
offsets `offs` lists; the characters of `t` between the two offsets of a node are the printed form of
that node; and every span starts at line 1 + (line feeds before the node's first character) and
byte column 1 + (bytes since the last line feed before it). -/
theorem span_sound_ladder (pre : List Char) (e : Expr) (hnf : NF e) (rest : List Char)
    (hrest : Follows rest) (t : List Char) (ht : t = pre ++ pp 0 e ++ rest)
    (fuel : Nat) (hfuel : fuelNeeded e ≤ fuel) :
    ∃ e', fallback fuel ((PState.init t).adv pre.length) =
        some ((PState.init t).adv (pre.length + (pp 0 e).length), e') ∧
      e'.eraseSpans = e.eraseSpans ∧
      spansOf e' = (offs 0 pre.length e).map (spanAt (PState.init t)) ∧
      (offs 0 pre.length e).map (slice t) = (nodesOf e).map (pp 0) ∧
      ∀ sp ∈ spansOf e', ∃ ab ∈ offs 0 pre.length e,
        sp.line = 1 + (t.take ab.1).count '\n' ∧
        sp.cs = 1 + bytesLen (Pos.lastLine (t.take ab.1)) :=
  fallback_spans_in_file pre e hnf rest hrest t ht fuel hfuel

/-- Non-vacuity: `a (b | <C>)... [d]` on the second line of a file is in the fragment; its eight nodes
get the offsets of their own texts. -/
example :
    let e : Expr := .seq (.cons (.term "a" none 0 default)
      (.cons (.many1 (.alt (.cons (.term "b" none 0 default) (.cons (.nonterm "C" 0 default) .nil)) default) default)
        (.cons (.opt (.term "d" none 0 default) default) .nil))) default
    String.ofList (pp 0 e) = "a (b | <C>)... [d]" ∧
    offs 0 7 e = [(7, 25), (7, 8), (9, 21), (10, 17), (10, 11), (14, 17), (22, 25), (23, 24)] := by
  decide

/-- **Span soundness on the larger fragment, any layout** (`Proofs/SpansFull.lean`): escaped literals,
descriptions, descriptions over groups, words by juxtaposition.  `PlacedL'` says which text each node's
span covers *as the parser computes it*: a literal with a description spans literal + layout +
description; `( … ) "d"` starts at the parenthesis; a word and the sequence of its factors carry the
same span; a parenthesis forced by the context is not part of the node. -/
theorem span_sound_full (pre : List Char) (e : Expr) (hnf : Full.NF' e) (lay : Full.Layout') (adm : lay.Adm)
    (rest : List Char) (hrest : Follows rest) (t : List Char) (ht : t = pre ++ Full.ppL' lay 0 e ++ rest)
    (fuel : Nat) (hfuel : Full.needF e ≤ fuel) :
    ∃ e', fallback fuel ((PState.init t).adv pre.length) =
        some ((PState.init t).adv (pre.length + (Full.ppL' lay 0 e).length), e') ∧
      Full.PlacedL' lay 0 ((PState.init t).adv pre.length) e e' ∧
      e'.eraseSpans = e.eraseSpans ∧
      spansOf e' = (Full.offsL' lay 0 pre.length e).map (spanAt (PState.init t)) ∧
      (Full.offsL' lay 0 pre.length e).map (slice t) = Full.ownTexts lay e ∧
      ∀ sp ∈ spansOf e', ∃ ab ∈ Full.offsL' lay 0 pre.length e,
        sp.line = 1 + (t.take ab.1).count '\n' ∧
        sp.cs = 1 + bytesLen (Pos.lastLine (t.take ab.1)) :=
  fallback_spans_full_in_file pre e hnf lay adm rest hrest t ht fuel hfuel

/-- **Every span of a whole file points at its construct** (`Proofs/SpansFile.lean`): for every list of
statements of the larger fragment under every admissible layout, the model of `Grammar::parse` returns
the grammar, and for each statement — the span of the command name, of the `<NAME>` / `<NAME@SHELL>`
head, of the shell name, and of every node of the expression — the span starts at the line (1 + line
feeds before) and byte column (1 + bytes since the last line feed) of the offset of the first
character of the text it belongs to (`stmtOffs` lists the offsets, `stmtTexts` the texts found there). -/
theorem span_sound_file (g : Grammar) (hg : ∀ st ∈ g, Full.StmtNF' st) (G : Full.GLayout') (adm : G.Adm g) :
    ∃ g', parse (Full.ppGrammarL' G g) = .ok g' ∧ g'.map Stmt.eraseSpans = g.map Stmt.eraseSpans ∧
      ∀ i st, g[i]? = some st → ∃ st', g'[i]? = some st' ∧
        (∃ post, Full.ppGrammarL' G g =
          (Full.ppGrammarL' G g).take (Full.stmtOffset G g i) ++ Full.ppBodyL' (G.stmt i) st ++ post) ∧
        Full.StmtPlaced (G.stmt i) ((PState.init (Full.ppGrammarL' G g)).adv (Full.stmtOffset G g i)) st st' ∧
        Full.stmtSpans st' =
          (Full.stmtOffs (G.stmt i) (Full.stmtOffset G g i) st).map (spanAt (PState.init (Full.ppGrammarL' G g))) ∧
        (Full.stmtOffs (G.stmt i) (Full.stmtOffset G g i) st).map (slice (Full.ppGrammarL' G g)) =
          Full.stmtTexts (G.stmt i) st ∧
        ∀ sp ∈ Full.stmtSpans st', ∃ ab ∈ Full.stmtOffs (G.stmt i) (Full.stmtOffset G g i) st,
          sp.line = 1 + ((Full.ppGrammarL' G g).take ab.1).count '\n' ∧
          sp.cs = 1 + bytesLen (Pos.lastLine ((Full.ppGrammarL' G g).take ab.1)) :=
  grammar_spans_in_file g hg G adm

end Complgen.Props.C13
