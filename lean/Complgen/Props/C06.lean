/-
C06 — the compiler never crashes or hangs.
-/
import Complgen.Model.Pipeline
import Complgen.Proofs.Verdict
import Complgen.Proofs.PipelineMin
import Complgen.Proofs.BuildTerm
import Complgen.Proofs.SpacesDepth
namespace Complgen.Props.C06
open Complgen Complgen.Check

/-- The validation passes of the model are total functions: every grammar tree gives an outcome
(a value, a diagnosed error class, or an explicitly modelled crash site) — there is no partiality
hidden in the model. Stated as: the outcome is one of the three forms. -/
theorem validate_total (g : Grammar) (sh : Shell) :
    (∃ v, validate g sh = .ok v) ∨ (∃ c s, validate g sh = .err c s) ∨ (∃ site, validate g sh = .crash site) := by
  cases h : validate g sh with
  | ok v => exact .inl ⟨v, rfl⟩
  | err c s => exact .inr (.inl ⟨c, s, rfl⟩)
  | crash site => exact .inr (.inr ⟨site, rfl⟩)

/-- the only crash site in the model of validation is the native stack of `check_subword_spaces`
(modelled by a recursion budget): every other path — whatever the grammar tree — ends in a value or
in a diagnosed error.  Together with the exact model/library correspondence on every mutated input
of the run, a panic of the library's validation can only be that one. -/
theorem validate_crash_only_stack (g : Grammar) (sh : Shell) (s : String) (h : validate g sh = .crash s) :
    s = "check_subword_spaces: unbounded recursion through cyclic definitions" :=
  Check.validate_crash_only_stack g sh s h

/-- **The minimiser never exhausts its budget**: the pipeline model has two calls of the minimiser (main
automaton, every within-word automaton) whose refinement loop is modelled with fuel; neither can
run out, for any grammar, shell and schedule (`Proofs/HopcroftTerm.lean` through
`Proofs/PipelineMin.lean`: what the subset construction builds is well-formed, and on well-formed
input the fuel of `2·N² + 2` rounds exceeds the `N` that are needed). -/
theorem minimiser_budget_suffices (σ : Schedule) (g : Grammar) (sh : Shell) :
    Pipeline.compile σ g sh ≠ .crash "do_minimize: out of fuel" :=
  Pipeline.compile_never_minimize_fuel σ g sh

/-- **The subset construction terminates**: on every compiled expression — and more generally whenever
the first/follow sets only mention positions up to the end marker — the model's work-list loop ends
within its budget of 2^(n+1) rounds (every round pops a set of positions, every set is pushed once,
and there are at most 2^(n+1) sets of positions `≤ n`), for every schedule. -/
theorem subset_construction_terminates (σ : Schedule) (e : Expr) (pool : RxPool) (symOf : Nat → Option Inp) :
    (buildAuto σ (Regex.ofExpr e pool).1 symOf).isSome :=
  buildAuto_ofExpr_isSome σ e pool symOf

/-- **The only crash outcome of the whole pipeline model** (validate ▸ regex ▸ ambiguity checks ▸
symbols and within-word automata ▸ subset construction ▸ minimisation ▸ ambiguity check) is the
modelled native stack of `check_subword_spaces`: no budget of a loop runs out and no pool lookup
fails, for any grammar, shell and schedule.  Every other run of the model ends in a result or in a
diagnosed error. -/
theorem pipeline_crash_only_stack (σ : Schedule) (g : Grammar) (sh : Shell) (s : String)
    (h : Pipeline.compile σ g sh = .crash s) :
    s = "check_subword_spaces: unbounded recursion through cyclic definitions" :=
  Pipeline.compile_crash_only_stack σ g sh s h

/-- **Below the modelled stack the pipeline model never crashes** (`Proofs/SpacesDepth.lean`): the walk of
`check_subword_spaces` over the expanded definitions needs at most `spacesDepth` of the top expression
plus the deepest expanded definition; in particular every grammar whose statements have fewer than
10 000 nodes in total goes through the whole pipeline model without any crash outcome, for every
shell and schedule.  (The expanded table is closed — no body refers to a defined name any more —
which is what makes the recursion through definitions one level deep.) -/
theorem no_crash_below_stack (g : Grammar) (sh : Shell) (h : (g.map stmtSize).sum ≤ 9999) :
    ∀ σ site, Pipeline.compile σ g sh ≠ .crash site :=
  Pipeline.compile_no_crash_of_size g sh h

/-- the sharper bound in the units of the walk itself -/
theorem no_crash_below_depth (g : Grammar) (sh : Shell)
    (h : spacesDepth (topSpecialised g sh) + tableDepth (expandedTable g sh) ≤ stackFuel) :
    ∀ σ site, Pipeline.compile σ g sh ≠ .crash site :=
  Pipeline.compile_no_crash_of_depth g sh h

/-- the bound is about something: with too little budget the walk does report exhaustion, and on a
table that is not closed (`<X> ::= <X>`) it does so for every budget -/
theorem stack_bound_not_vacuous :
    (spaces [] 7 flat6 [] false = .overflow ∧ spaces [] 8 flat6 [] false = .fine) ∧
    (∀ fuel tr w, spaces tableLoop fuel (.nonterm "X" 0 default) tr w = .overflow) :=
  ⟨⟨flat6_overflow.2.2.1, flat6_overflow.2.2.2⟩, loop_overflow⟩

end Complgen.Props.C06
