/-
C02 — the compiled automaton recognises exactly the grammar's language, labels included.
-/
import Complgen.Proofs.Glushkov
import Complgen.Proofs.Subset
import Complgen.Proofs.RxOfExpr
import Complgen.Proofs.Passes
import Complgen.Proofs.Choice
import Complgen.Proofs.Meaning
import Complgen.Proofs.SpecAuto
import Complgen.Proofs.EndToEnd
namespace Complgen.Props.C02
open Complgen

/-- Glushkov: a word of positions belongs to a linear expression iff it is a path of the position
automaton read off nullable / firstpos / followpos / lastpos. -/
theorem glushkov_local (r : Rx) (hl : r.Linear) (ps : List Nat) (p : Nat) :
    r.Lang (ps ++ [p]) ↔ ∃ cur, PosPath r.first r.follow ps cur ∧ p ∈ cur ∧ p ∈ r.last :=
  Rx.lang_iff_path r hl ps p

theorem glushkov_nil (r : Rx) : r.Lang [] ↔ r.nullable = true := Rx.lang_nil_iff r

/-- the subset construction of the model is correct for every work-list order -/
theorem subset_construction_correct (σ : Schedule) (r : Regex) (symOf : Nat → Option Inp) (a : Auto)
    (hsym : ∀ p, p < r.inputs.length → (symOf p).isSome)
    (hend : symOf r.endPos = none)
    (hfollow : ∀ p q, q ∈ r.follow p → q ≤ r.endPos)
    (hfirst : ∀ q ∈ r.first, q ≤ r.endPos)
    (h : buildAuto σ r symOf = some a) :
    ∀ w : List Inp, a.acceptsInp w = true ↔ PosAccepts r.first r.follow r.endPos symOf w :=
  buildAuto_correct σ r symOf a hend hfollow hfirst h

/-- the regular expression `do_from_expr` builds means what the grammar expression means
(`Optional ↦ Or[x, ε]`, `Many1 ↦ Cat[x, Star x]`, `||` and `|` ↦ `Or`), over the leaf numbering -/
theorem rx_of_expr_lang (e : Expr) (ins : List RxInput) (pool : RxPool) (ps : List Nat) :
    (rxOfExpr e (ins, pool)).1.Lang ps ↔ e.denPos ins.length ps :=
  rxOfExpr_lang e ins pool ps

/-- positions are pairwise distinct and the end marker is fresh -/
theorem of_expr_linear (e : Expr) (pool : RxPool) :
    (Regex.ofExpr e pool).1.root.Linear ∧
    (Regex.ofExpr e pool).1.endPos ∉ (Regex.ofExpr e pool).1.root.positions ∧
    (Regex.ofExpr e pool).1.inputs.length = e.leafCount :=
  Regex.ofExpr_linear e pool

/-- **The raw automaton of the model, for every work-list order, accepts exactly the label
sequences of the words of the (validated) grammar expression** — labels = the symbol of each
leaf (literal text + description + level, command text + level, any-word, within-word automaton
+ level). -/
theorem C02_raw_model (σ : Schedule) (e : Expr) (pool : RxPool) (symOf : Nat → Option Inp) (a : Auto)
    (hsym : ∀ p, p < e.leafCount → (symOf p).isSome)
    (hend : symOf e.leafCount = none)
    (h : buildAuto σ (Regex.ofExpr e pool).1 symOf = some a) :
    ∀ w : List Inp, a.acceptsInp w = true ↔ ∃ ps, e.denPos 0 ps ∧ ps.map symOf = w.map some :=
  raw_automaton_correct σ e pool symOf a hend h

/-! ### the passes of validation against the rules of the specification

`Spec.meaning` composes: description rule (`Spec.distr`), choice of definitions (`Spec.pick`) with
expansion, words (`Spec.words`), `||` levels (`Spec.label`).  The model's passes that have a
counterpart there *are* these functions: -/

/-- descriptions: first literal of each alternative, spent once per sequence -/
theorem descriptions_as_specified (e : Expr) : Check.distribute e = (Spec.distr e none).1 :=
  Check.distribute_eq_spec e

/-- after that pass no `( … ) "descr"` node is left, which is what the later passes assume -/
theorem descriptions_erased (e : Expr) : Check.NoDD (Check.distribute e) = true := Check.distribute_noDD e

/-- the definition chosen at every reference is `Spec.pick`'s (C11's theorem) -/
theorem choice_as_specified (g : Grammar) (sh : Shell) (specs : Check.AList Check.UserSpec) (fbs : Check.AList String)
    (h : Check.getSpecializations g sh = .ok (specs, fbs)) (e : Expr) (b : Check.Book) (hb : Check.SameCmds specs b) :
    (Check.specialize sh fbs ((Check.plainDefs g).map (·.1)) e b).1 = Check.applyPick sh g e :=
  (Check.specialize_eq_applyPick g sh specs fbs h e b hb).1

/-- the topmost juxtaposition is one word with a flattened inside -/
theorem words_as_specified (e : Expr) (h : Check.NoDD e = true) : Check.collapse e = Spec.words e :=
  Check.collapse_spec e h

/-- every item carries the index of its branch in the innermost enclosing `||` -/
theorem levels_as_specified (e : Expr) (lvl : Nat) (h : Check.NoDD e = true) :
    Check.propagate e lvl = Spec.label e lvl :=
  Check.propagate_spec e lvl h

/-- Non-vacuity: `a [b]` — the model builds an automaton, and the theorem's premises hold for it. -/
example :
    let e : Expr := .seq (.cons (.term "a" none 0 default) (.cons (.opt (.term "b" none 0 default) default) .nil)) default
    let symOf : Nat → Option Inp := fun p => if p = 0 then some (.lit "a" none 0) else if p = 1 then some (.lit "b" none 0) else none
    (buildAuto fifo (Regex.ofExpr e []).1 symOf).isSome = true ∧ e.leafCount = 2 := by
  decide

/-! ### validation as a whole

The passes composed, with the one that has no counterpart function in the specification — the
expansion of definitions in dependency order, found by a depth-first traversal — proved to compute
the specification's fixpoint expansion. -/

/-- **What validation returns is the grammar's meaning**, for every grammar and target shell the
model of check.rs accepts: call variants joined, descriptions distributed, every reference replaced
by the definition `Spec.pick` chooses and expanded to the end (whatever order the traversal finds),
juxtapositions flattened into words, `||` levels attached.  `topSpan g` is the source position the
code records at the node joining several call variants. -/
theorem validation_is_meaning (g : Grammar) (sh : Shell) (v : Check.Valid) (h : Check.validate g sh = .ok v) :
    v.expr = Spec.meaningAt (Check.topSpan g) g sh :=
  Check.validate_expr_eq_meaning g sh v h

/-- that position is the only thing by which `Spec.meaningAt` differs from `Spec.meaning` -/
theorem meaning_root_span (g : Grammar) (sh : Shell) :
    (∀ sp, Spec.meaningAt sp g sh = Spec.meaning g sh) ∨ (∃ X, ∀ sp, Spec.meaningAt sp g sh = .alt X sp) :=
  Check.meaningAt_cases g sh

/-- a successful traversal lists every definition once, after everything it refers to -/
theorem resolution_order_topological (D : Check.AList (Span × Expr)) (order : List String)
    (h : Check.resolutionOrder D = .ok order) :
    ∃ R : List String, order = R.filter (fun v => !(((Check.depGraph D).get? v).getD []).isEmpty) ∧ R.Nodup ∧
      Check.Closed (Check.depGraph D) R ∧ ∀ v ∈ Check.verts (Check.depGraph D), v ∈ R :=
  Check.resolutionOrder_ok D order h

/-- the fuel the specification's expansion is given always suffices (a definition is entered at most
once along a path when the traversal succeeds) -/
theorem expansion_as_specified (sh : Shell) (g : Grammar) (order : List String)
    (hnodup : ((Check.plainDefs g).map (·.1)).Nodup) (hro : Check.resolutionOrder (Check.tableOf sh g) = .ok order)
    (e : Expr) (hd : Check.NoDD e = true) (u u' : Check.AList Span) (k : Nat)
    (hk : Check.depth e + ((Check.plainDefs g).map fun x => 2 * Spec.size x.2.2).sum ≤ k) :
    Spec.expand sh g k e =
      (Check.resolve (order.foldl Check.resStep (Check.tableOf sh g, u)).1 (Check.applyPick sh g e) u').1 :=
  Check.expansion_correct sh g order hnodup hro e hd u u' k hk

/-- **End to end over the model**: for every grammar and shell the model of check.rs accepts and
every work-list order, the raw automaton accepts exactly the label sequences of the words of the
grammar's *meaning* (`Spec.meaningAt`: choice of definitions, expansion, descriptions, words, levels;
`denPos`: the words of an expression, position by position). -/
theorem C02_end_to_end (σ : Schedule) (g : Grammar) (sh : Shell) (v : Check.Valid) (pool : RxPool)
    (symOf : Nat → Option Inp) (a : Auto) (hv : Check.validate g sh = .ok v)
    (hsym : ∀ p, p < v.expr.leafCount → (symOf p).isSome) (hend : symOf v.expr.leafCount = none)
    (h : buildAuto σ (Regex.ofExpr v.expr pool).1 symOf = some a) :
    ∀ w : List Inp, a.acceptsInp w = true ↔
      ∃ ps, (Spec.meaningAt (Check.topSpan g) g sh).denPos 0 ps ∧ ps.map symOf = w.map some :=
  Check.validate_expr_eq_meaning g sh v hv ▸ raw_automaton_correct σ v.expr pool symOf a hend h

/-- **The oracle of the run has the semantics of the theorems**: the determinised partial-derivative
automaton of the grammar's meaning — the automaton every implementation automaton is decided
equivalent to, per grammar, by the verified bisimulation checker — accepts exactly the key sequences
of the words (`denPos`) of `Spec.meaning g sh` (`Proofs/Antimirov.lean`: partial derivatives and the
work-list construction; `Proofs/SpecAuto.lean`: the regular expression of an expression).  The two
hypotheses are evaluated by the driver for every explored grammar (`fin`, `nea`). -/
theorem oracle_has_theorem_semantics (g : Grammar) (sh : Shell) (hn : Spec.NoEmptyAlt (Spec.meaning g sh) = true)
    (hfin : Spec.Finished (Spec.toSRx Spec.wordKey (Spec.meaning g sh))) (kw : List String) :
    (Spec.specAuto g sh).accepts kw = true ↔
      ∃ ps, (Spec.meaning g sh).denPos 0 ps ∧
        ps.map (Spec.keyAt (Spec.leafKeys Spec.wordKey (Spec.meaning g sh)) 0) = kw :=
  Spec.specAuto_correct g sh hn hfin kw

/-- **The pipeline recognises the grammar's meaning** (`C02_end_to_end` with its side conditions
discharged, `Proofs/EndToEnd.lean`): whenever the model of the whole pipeline (validate ▸ regex ▸
ambiguity checks ▸ symbols and within-word automata ▸ subset construction ▸ minimisation) produces a
result, the raw *and the minimised* main automaton accept exactly the label sequences of the words
of `Spec.meaningAt g sh`, the label of position `p` being the symbol the pipeline computed for it. -/
theorem pipeline_recognises_meaning (σ : Schedule) (g : Grammar) (sh : Shell) (c : Pipeline.Compiled)
    (h : Pipeline.compile σ g sh = .ok c) :
    ∃ syms, Pipeline.symbolsOf σ c.pool c.regex.inputs = .ok (syms, c.raw.subs) ∧
      ∀ w : List Inp,
        (c.raw.main.acceptsInp w = true ↔
          ∃ ps, (Spec.meaningAt (Check.topSpan g) g sh).denPos 0 ps ∧
            ps.map (fun p => syms[p]?) = w.map some) ∧
        c.min.main.acceptsInp w = c.raw.main.acceptsInp w :=
  Pipeline.compile_meaning σ g sh c h

end Complgen.Props.C02
