/-
C09 — a typed word never has two readings; `||` is transparent to matching.

Proved here: soundness of the word-determinism checker the check runs on every automaton the real
library produces (main and within-word, raw and minimised): an automaton that passes has, at every
state, at most one continuation per typed word among literals (whatever their label) and among
within-word automata (whatever pool entry they are).  The full statement is *false* of the pinned
design (see known_findings.jsonl: the same literal in two `||` branches, language-equal within-word
automata interned apart); those two kinds are computed from the witness the checker returns.
And `fallback_transparent`: the validated expression of a grammar and of its `|` variant agree once
descriptions, levels and positions are erased (`Proofs/Fallback.lean`, through C02's
`validation_is_meaning`).
-/
import Complgen.Proofs.Det
import Complgen.Proofs.Fallback
namespace Complgen.Props.C09
open Complgen.Cert

theorem word_det_sound (a : KAuto) (h : wordDetCheck a wordClass = true) :
    ∀ q k₁ k₂ q₁ q₂, (q, k₁, q₁) ∈ a.trans → (q, k₂, q₂) ∈ a.trans →
      wordClass k₁ = wordClass k₂ → q₁ = q₂ :=
  wordDet_sound a wordClass h

/-- the witness returned on failure is a real conflict -/
theorem word_conflict_real (a : KAuto) (q : Nat) (k₁ k₂ : String) (t₁ t₂ : Nat)
    (h : wordConflict a wordClass = some (q, k₁, k₂, t₁, t₂)) :
    (q, k₁, t₁) ∈ a.trans ∧ (q, k₂, t₂) ∈ a.trans ∧ wordClass k₁ = wordClass k₂ ∧ t₁ ≠ t₂ :=
  wordConflict_real a wordClass q k₁ k₂ t₁ t₂ h

/-- Non-vacuity, and the shape of the known finding: `cmd (a x || a y);` compiles to a start state
with two `a` items (levels 0 and 1) leading to different states — the checker rejects it; merging
them is accepted.  (The class function is written out for these keys: string splitting does not
reduce in the kernel; the driver evaluates the same `wordDetCheck` with `wordClass`.) -/
example :
    let cls : String → String := fun k => if k = "L:61:e:0" ∨ k = "L:61:e:1" then "L:61" else k
    let bad : KAuto := { start := 1, acc := [4], trans := [(1, "L:61:e:0", 2), (1, "L:61:e:1", 3), (2, "L:78:e:0", 4), (3, "L:79:e:1", 4)] }
    let good : KAuto := { start := 1, acc := [4], trans := [(1, "L:61:e:0", 2), (1, "L:61:e:1", 2), (2, "L:78:e:0", 4), (2, "L:79:e:1", 4)] }
    wordDetCheck bad cls = false ∧ wordDetCheck good cls = true := by
  decide

/-! ### `||` is transparent to matching

`Check.strip` erases what does not take part in matching — descriptions, `||` levels, source
positions — and reads `||` as `|`.  `Check.fbToAltG g` is the grammar `g` with every `||` replaced by
`|`. -/

open Complgen in
/-- the meaning the specification gives a grammar and its `|` variant is the same expression up to
`strip` (replacing `||` by `|` changes only how a description after a group is spent, and the levels) -/
theorem fallback_transparent_meaning (sp : Span) (g : Grammar) (sh : Shell) :
    Check.strip (Spec.meaningAt sp (Check.fbToAltG g) sh) = Check.strip (Spec.meaningAt sp g sh) :=
  Check.meaningAt_fbToAlt sp g sh

open Complgen in
/-- **`||` is transparent to matching in the model of check.rs**: whenever it accepts a grammar and
its `|` variant, the two validated expressions — from which the automata are built — agree up to
`strip`, hence match the same command lines. -/
theorem fallback_transparent (g : Grammar) (sh : Shell) (v v' : Check.Valid) (h : Check.validate g sh = .ok v)
    (h' : Check.validate (Check.fbToAltG g) sh = .ok v') : Check.strip v'.expr = Check.strip v.expr :=
  Check.validate_fbToAlt g sh v v' h h'

end Complgen.Props.C09
