/-
Facts about the run-time model of the bash template (`Model/BashRt.lean`) that hold for ANY tables.

The level loops of the template (`offer` between words, `subComplete` inside a word) accumulate
candidates over the `||` levels, but pass on to the next level only when NOTHING of the current level
extends the typed text.  So whatever has accumulated is filtered out again, and the result is the
output of the first level that offers anything, computed from that level alone (`firstLevel`,
`levels_eq_firstLevel`, `offer_eq_firstLevel`, `subComplete_eq_firstLevel`).  C01 is read off from that:
what the completion function offers always extends the typed text (`offer_extends`), for every table
set, every state, every typed prefix and every output of the external commands.
-/
import Complgen.Model.BashRt
namespace Complgen.BashRt

theorem isPrefix_iff {p s : List Char} : isPrefix p s = true ↔ p <+: s :=
  List.isPrefixOf_iff_prefix

theorem isPrefix_matched {w : List Char} {i : Nat} (s : String) :
    isPrefix w (String.ofList (w.take i) ++ s).toList = true ↔ w.drop i <+: s.toList := by
  rw [isPrefix_iff, String.toList_append, String.toList_ofList]
  conv => lhs; lhs; rw [← List.take_append_drop i w]
  exact List.prefix_append_right_inj _

theorem toOf_cons (p : Nat × Nat) (r : List (Nat × Nat)) (k : Nat) :
    toOf (p :: r) k = if p.1 = k then some p.2 else toOf r k := by
  unfold toOf
  by_cases h : p.1 = k
  · simp [h]
  · have : (p.1 == k) = false := by simpa using h
    simp [this, h]

def litStep (T : Tables) (mode : Mode) (q : Nat) (r : List Char) : Step :=
  match rowOf T.litTrans q with
  | some row => litPass mode T.literals row r 0 T.literals
  | none => .nothing

theorem litStep_of_row {T : Tables} {q : Nat} {row : List (Nat × Nat)} (h : rowOf T.litTrans q = some row)
    (mode : Mode) (r : List Char) : litStep T mode q r = litPass mode T.literals row r 0 T.literals := by
  unfold litStep
  rw [h]

def cmdStep (T : Tables) (out : Nat → List String) (q : Nat) (r : List Char) : Step :=
  match rowOf T.cmdTrans q with
  | some row => cmdPass out r row
  | none => .nothing

theorem subLoop_succ (T : Tables) (out : Nat → List String) (mode : Mode) (w : List Char)
    (fuel q i : Nat) : subLoop T out mode w (fuel + 1) q i =
      if i ≥ w.length then (q, i, true) else
      match litStep T mode q (w.drop i) with
      | .consumed q' n => if n = 0 then (q, i, false) else subLoop T out mode w fuel q' (i + n)
      | .stop => (q, i, false)
      | .nothing =>
        match cmdStep T out q (w.drop i) with
        | .consumed q' n => if n = 0 then (q, i, false) else subLoop T out mode w fuel q' (i + n)
        | .stop => (q, i, false)
        | .nothing => if (T.star.find? (·.1 == q)).isSome then (q, i, true) else (q, i, false) := rfl

def firstLevel (out : Nat → List String) (mx : Nat) : Nat → Nat → List String
  | 0, _ => []
  | fuel + 1, lvl =>
    if !(out lvl).isEmpty then out lvl
    else if lvl ≥ mx then [] else firstLevel out mx fuel (lvl + 1)

theorem mem_firstLevel (out : Nat → List String) (mx : Nat) (c : String) :
    ∀ (fuel lvl : Nat), fuel + lvl = mx + 1 →
      (c ∈ firstLevel out mx fuel lvl ↔
        ∃ L, lvl ≤ L ∧ L ≤ mx ∧ c ∈ out L ∧ ∀ l, lvl ≤ l → l < L → out l = [])
  | 0, lvl, hf => by
    simp only [firstLevel, List.not_mem_nil, false_iff]
    rintro ⟨L, h1, h2, _, _⟩
    omega
  | fuel + 1, lvl, hf => by
    unfold firstLevel
    by_cases hne : (!(out lvl).isEmpty) = true
    · simp only [hne, if_true]
      have hne' : out lvl ≠ [] := by simpa using hne
      constructor
      · intro hc
        exact ⟨lvl, Nat.le_refl _, by omega, hc, fun l h1 h2 => by omega⟩
      · rintro ⟨L, h1, _, hc, hlow⟩
        by_cases hL : L = lvl
        · subst hL
          exact hc
        · exact absurd (hlow lvl (Nat.le_refl _) (by omega)) hne'
    · simp only [hne, Bool.false_eq_true, if_false]
      have hnil : out lvl = [] := by simpa using hne
      by_cases hge : lvl ≥ mx
      · simp only [hge, if_true, List.not_mem_nil, false_iff]
        rintro ⟨L, h1, h2, hc, _⟩
        have : L = lvl := by omega
        subst this
        rw [hnil] at hc
        cases hc
      · simp only [hge, if_false]
        rw [mem_firstLevel out mx c fuel (lvl + 1) (by omega)]
        constructor
        · rintro ⟨L, h1, h2, hc, hlow⟩
          refine ⟨L, by omega, h2, hc, fun l hl1 hl2 => ?_⟩
          by_cases hl : l = lvl
          · subst hl
            exact hnil
          · exact hlow l (by omega) hl2
        · rintro ⟨L, h1, h2, hc, hlow⟩
          have hL : L ≠ lvl := by
            rintro rfl
            rw [hnil] at hc
            cases hc
          exact ⟨L, by omega, h2, hc, fun l hl1 hl2 => hlow l (by omega) hl2⟩

theorem mem_firstLevel_iff (out : Nat → List String) (mx : Nat) (c : String) :
    c ∈ firstLevel out mx (mx + 1) 0 ↔ ∃ L, L ≤ mx ∧ c ∈ out L ∧ ∀ l, l < L → out l = [] := by
  rw [mem_firstLevel out mx c _ 0 (by omega)]
  constructor
  · rintro ⟨L, _, h2, hc, hlow⟩
    exact ⟨L, h2, hc, fun l hl => hlow l (Nat.zero_le _) hl⟩
  · rintro ⟨L, h2, hc, hlow⟩
    exact ⟨L, Nat.zero_le _, h2, hc, fun l _ hl => hlow l hl⟩

theorem mem_firstLevel_iff_least {out : Nat → List String} {mx : Nat} {P : Nat → String → Prop}
    (hout : ∀ l c, c ∈ out l ↔ P l c) (hmax : ∀ l c, P l c → l ≤ mx) (c : String) :
    c ∈ firstLevel out mx (mx + 1) 0 ↔ ∃ L, P L c ∧ ∀ l c', P l c' → L ≤ l := by
  rw [mem_firstLevel_iff]
  constructor
  · rintro ⟨L, _, hc, hlow⟩
    refine ⟨L, (hout L c).mp hc, fun l c' hc' => Nat.le_of_not_lt fun hl => ?_⟩
    have := (hout l c').mpr hc'
    rw [hlow l hl] at this
    cases this
  · rintro ⟨L, hc, hmin⟩
    refine ⟨L, hmax L c hc, (hout L c).mpr hc, fun l hl => ?_⟩
    rw [List.eq_nil_iff_forall_not_mem]
    intro c' hc'
    have := hmin l c' ((hout l c').mp hc')
    omega

section acc
variable {α : Type} {f : α → Bool} {cands : List α}

theorem filter_append_of_all_false (hc : ∀ x ∈ cands, f x = false) (new : List α) :
    (cands ++ new).filter f = new.filter f := by
  rw [List.filter_append, List.filter_eq_nil_iff.mpr fun x hx => by simp [hc x hx], List.nil_append]

theorem all_false_append (hc : ∀ x ∈ cands, f x = false) {new : List α} (hn : new.filter f = []) :
    ∀ x ∈ cands ++ new, f x = false := by
  intro x hx
  rcases List.mem_append.mp hx with hx | hx
  · exact hc x hx
  · simpa using List.filter_eq_nil_iff.mp hn x hx

end acc

theorem levels_eq_firstLevel {f : String → Bool} {out : Nat → List String} {mx : Nat}
    {L : Nat → Nat → List String → List String} (carry : Nat → List String → List String)
    (h0 : ∀ lvl c, L 0 lvl c = [])
    (hs : ∀ fuel lvl c, (∀ x ∈ c, f x = false) → L (fuel + 1) lvl c =
      if !(out lvl).isEmpty then out lvl else if lvl ≥ mx then [] else L fuel (lvl + 1) (carry lvl c))
    (hcarry : ∀ lvl c, (∀ x ∈ c, f x = false) → out lvl = [] → ∀ x ∈ carry lvl c, f x = false) :
    ∀ (fuel lvl : Nat) (c : List String), (∀ x ∈ c, f x = false) →
      L fuel lvl c = firstLevel out mx fuel lvl
  | 0, lvl, c, _ => h0 lvl c
  | fuel + 1, lvl, c, hc => by
    rw [hs fuel lvl c hc]
    unfold firstLevel
    split
    · rfl
    · rename_i hne
      split
      · rfl
      · exact levels_eq_firstLevel carry h0 hs hcarry fuel (lvl + 1) _
          (hcarry lvl c hc (by simpa using hne))

def levelOut (S : Script) (q : Nat) (p : String) (lvl : Nat) : List String :=
  ((idsAt S.main.litLevels lvl q).map fun id => (S.main.literals[id]?.getD "") ++ " ").filter
      (fun c => isPrefix p.toList c.toList) ++
    ((idsAt S.main.subLevels lvl q).flatMap fun id => subComplete (S.sub id) S.out p) ++
    ((idsAt S.main.cmdLevels lvl q).flatMap fun cmd => (S.out cmd).filter fun o => isPrefix p.toList o.toList)

theorem offer_eq_firstLevel (S : Script) (q : Nat) (p : String) :
    offer S q p = firstLevel (levelOut S q p) S.main.maxLevel (S.main.maxLevel + 1) 0 := by
  refine levels_eq_firstLevel (L := offer.levels S q p S.main p.toList)
    (f := fun c => isPrefix p.toList c.toList)
    (fun lvl c =>
      match (idsAt S.main.cmdLevels lvl q).getLast? with
      | some cmd => S.out cmd
      | none => c ++ (idsAt S.main.litLevels lvl q).map fun id => (S.main.literals[id]?.getD "") ++ " ")
    (fun _ _ => rfl) (fun fuel lvl c hc => ?_) (fun lvl c hc hnil => ?_) _ 0 [] (by simp)
  · rw [offer.levels]
    simp only [filter_append_of_all_false hc]
    rfl
  · unfold levelOut at hnil
    rw [List.append_eq_nil_iff, List.append_eq_nil_iff] at hnil
    obtain ⟨⟨h1, _⟩, h3⟩ := hnil
    split
    · -- `readarray` left the lines of the last command of the level: none of them extends `p`
      rename_i cmd hlast
      intro x hx
      have := List.filter_eq_nil_iff.mp
        (List.flatMap_eq_nil_iff.mp h3 cmd (List.mem_of_getLast? hlast)) x hx
      simpa using this
    · exact all_false_append hc h1

theorem mem_offer_iff_level (S : Script) (q : Nat) (p c : String) :
    c ∈ offer S q p ↔
      ∃ L, L ≤ S.main.maxLevel ∧ c ∈ levelOut S q p L ∧ ∀ l, l < L → levelOut S q p l = [] := by
  rw [offer_eq_firstLevel, mem_firstLevel_iff]

def subLevelOut (T : Tables) (out : Nat → List String) (w : List Char) (q : Nat) (matched : String)
    (completed : List Char) (lvl : Nat) : List String :=
  ((idsAt T.litLevels lvl q).map fun id => matched ++ (T.literals[id]?.getD "")).filter
      (fun c => isPrefix w c.toList) ++
    (idsAt T.cmdLevels lvl q).flatMap fun cmd =>
      ((out cmd).filter fun o => isPrefix completed o.toList).map fun o => matched ++ o

theorem subComplete_levels_eq (T : Tables) (out : Nat → List String) (w : List Char) (q : Nat)
    (matched : String) (completed : List Char) :
    subComplete.levels T out w q matched completed (T.maxLevel + 1) 0 [] =
      firstLevel (subLevelOut T out w q matched completed) T.maxLevel (T.maxLevel + 1) 0 := by
  refine levels_eq_firstLevel (L := subComplete.levels T out w q matched completed)
    (f := fun c => isPrefix w c.toList)
    (fun lvl c => c ++ (idsAt T.litLevels lvl q).map fun id => matched ++ (T.literals[id]?.getD ""))
    (fun _ _ => rfl) (fun fuel lvl c hc => ?_) (fun lvl c hc hnil => ?_) _ 0 [] (by simp)
  · rw [subComplete.levels]
    simp only [filter_append_of_all_false hc]
    rfl
  · exact all_false_append hc (List.append_eq_nil_iff.mp hnil).1

theorem subComplete_eq_firstLevel (T : Tables) (out : Nat → List String) (word : String) :
    subComplete T out word =
      firstLevel (subLevelOut T out word.toList
        (subLoop T out .complete word.toList (word.toList.length + 1) 0 0).1
        (String.ofList (word.toList.take (subLoop T out .complete word.toList (word.toList.length + 1) 0 0).2.1))
        (word.toList.drop (subLoop T out .complete word.toList (word.toList.length + 1) 0 0).2.1))
        T.maxLevel (T.maxLevel + 1) 0 :=
  subComplete_levels_eq T out word.toList _ _ _

theorem subComplete_extends (T : Tables) (out : Nat → List String) (word : String) (c : String)
    (h : c ∈ subComplete T out word) : isPrefix word.toList c.toList = true := by
  rw [subComplete_eq_firstLevel, mem_firstLevel_iff] at h
  obtain ⟨L, _, hc, _⟩ := h
  rcases List.mem_append.mp hc with h1 | h2
  · exact (List.mem_filter.mp h1).2
  · -- a command candidate extends the unread rest; the read part is put back in front
    obtain ⟨cmd, _, hc⟩ := List.mem_flatMap.mp h2
    obtain ⟨o, ho, rfl⟩ := List.mem_map.mp hc
    exact (isPrefix_matched o).mpr (isPrefix_iff.mp (List.mem_filter.mp ho).2)

/-- **Every candidate the template offers extends the typed text**, whatever the tables, the state
and the output of the external commands. -/
theorem offer_extends (S : Script) (q : Nat) (prefix_ : String) (c : String) (h : c ∈ offer S q prefix_) :
    isPrefix prefix_.toList c.toList = true := by
  obtain ⟨L, _, hc, _⟩ := (mem_offer_iff_level S q prefix_ c).mp h
  rcases List.mem_append.mp hc with h12 | h3
  · rcases List.mem_append.mp h12 with h1 | h2
    · exact (List.mem_filter.mp h1).2
    · obtain ⟨id, _, hc⟩ := List.mem_flatMap.mp h2
      exact subComplete_extends _ _ _ c hc
  · obtain ⟨cmd, _, hc⟩ := List.mem_flatMap.mp h3
    exact (List.mem_filter.mp hc).2

end Complgen.BashRt
