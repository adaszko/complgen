/-
C05 (whole grammars), the texts of the larger fragment: statements and whole `.usage` files as the printers
write them.

`StmtNF'`: names as in `StmtNF` of `Proofs/Statements.lean`, expressions in `NF'` of `Proofs/LadderFull.lean`
(escaped literals, literals with descriptions, descriptions distributed over groups, words built by
juxtaposition).  Layouts `GLayout'`, `StmtLayout'`: as `GLayout`, `StmtLayout`, the expressions laid out by a
`Layout'`, which has the position before a description.  The plain printer `ppGrammar'` is one of the layouts
(`ppGrammar'_eq`).  The smaller fragment lies inside: `StmtNF_sub`, and a layout of the smaller fragment read as
one of the larger gives the same text (`GLayout.toFull`, `ppGrammarL'_toFull`).

Fuel: `needF_le_length`, `needF e + 1 ≤ 10 * (ppL' lay ctx e).length` for every tree of `NF'`, every
admissible layout and every context, so `fuelFor n = 10 * n + 20` of `Parse.parse` covers every expression of
a file of `n` characters (`needF_le_stmts`).
-/
import Complgen.Proofs.Statements
namespace Complgen.Parse.Full

theorem length_parenIfL'_ge (lay : Layout') (b : Bool) (T : List Char) :
    T.length ≤ (parenIfL' lay b T).length := by
  cases b <;> simp [parenIfL', parenL] <;> omega

theorem length_sepL'_pos (lay : Layout') (adm : lay.Adm) (ctx : Nat) (h1 : 1 ≤ ctx) (h3 : ctx ≤ 3) :
    1 ≤ (sepL' lay ctx).length := by
  have : ctx = 1 ∨ ctx = 2 ∨ ctx = 3 := by omega
  rcases this with rfl | rfl | rfl
  · simp [sepL']; omega
  · simp [sepL']; omega
  · have := (adm.sep []).2
    simp only [sepL']
    cases h : lay.sep [] with
    | nil => exact absurd h this
    | cons _ _ => simp

theorem length_escT_pos (t : List Char) (ht : t ≠ []) (hh : t.head? ≠ some '#') : 1 ≤ (escT 0 t).length := by
  obtain ⟨c, r, h, _⟩ := escT_head t ht hh
  rw [h]; simp

def LenExpr (e : Expr) : Prop := ∀ lay : Layout', lay.Adm → ∀ ctx, needF e + 1 ≤ 10 * (ppL' lay ctx e).length
/-- a tail that is not empty also pays ten for its first separator, which has a character -/
def LenTail (es : ExprL) : Prop := ∀ lay : Layout', lay.Adm → ∀ ctx, 1 ≤ ctx → ctx ≤ 3 →
  needFL es + 10 ≤ 10 * (ppTailL' lay ctx es).length ∨ es = .nil
def LenWord (fs : ExprL) : Prop := ∀ lay : Layout', lay.Adm → needFL fs ≤ 10 * (ppTailL' lay 6 fs).length
def LenParts (es : ExprL) : Prop := ∀ e1 es1, es = .cons e1 es1 → LenExpr e1 ∧ LenTail es1 ∧ LenWord es1

theorem lenTail_cons (e : Expr) (es : ExprL) (he : LenExpr e) (hes : LenTail es) : LenTail (.cons e es) := by
  intro lay adm ctx h1 h3
  left
  have h1' := he (lay.sub 0) (adm.sub 0) ctx
  have h3' := length_sepL'_pos lay adm ctx h1 h3
  simp only [ppTailL', needFL, List.length_append]
  rcases hes (lay.sub 1) (adm.sub 1) ctx h1 h3 with h2 | rfl
  · omega
  · simp only [needFL]; omega

theorem lenWord_cons (e : Expr) (es : ExprL) (he : LenExpr e) (hes : LenWord es) : LenWord (.cons e es) := by
  intro lay adm
  have h1 := he (lay.sub 0) (adm.sub 0) 6
  have h2 := hes (lay.sub 1) (adm.sub 1)
  simp only [ppTailL', needFL, List.length_append]
  omega

theorem lenExpr_list (lay : Layout') (adm : lay.Adm) (b : Bool) (ctx : Nat) (h1 : 1 ≤ ctx) (h3 : ctx ≤ 3)
    (cs : ExprL) (hlen : 2 ≤ cs.length) (h : LenParts cs) :
    needFL cs + 10 ≤ 10 * (parenIfL' lay b (ppListL' (lay.sub 0) ctx cs)).length := by
  obtain ⟨e1, e2, es, rfl⟩ := two_le_length hlen
  obtain ⟨he1, hes, _⟩ := h _ _ rfl
  have h1' := he1 ((lay.sub 0).sub 0) ((adm.sub 0).sub 0) ctx
  have h2 := length_parenIfL'_ge lay b (ppListL' (lay.sub 0) ctx (.cons e1 (.cons e2 es)))
  rcases hes ((lay.sub 0).sub 1) ((adm.sub 0).sub 1) ctx h1 h3 with hT | hT
  · simp only [ppListL', List.length_append] at h2 ⊢
    rw [needFL]
    omega
  · cases hT

theorem lenExpr_word (lay : Layout') (adm : lay.Adm) (e1 e2 : Expr) (es : ExprL)
    (h : LenParts (.cons e1 (.cons e2 es))) :
    needFL (.cons e1 (.cons e2 es)) + 8 ≤ 10 * (ppListL' lay 6 (.cons e1 (.cons e2 es))).length := by
  obtain ⟨he1, _, hes⟩ := h _ _ rfl
  have h1' := he1 (lay.sub 0) (adm.sub 0) 6
  have h2' := hes (lay.sub 1) (adm.sub 1)
  have hpos : 1 ≤ needFL (.cons e2 es) := by simp only [needFL]; omega
  simp only [ppListL', List.length_append]
  rw [needFL]
  omega

/-- **the fuel of `Grammar::parse` suffices on the larger fragment**: ten units of fuel for every printed
character cover the descent into any tree of `NF'`, whatever the layout -/
theorem needF_le_length (e : Expr) : NF' e → LenExpr e := by
  suffices h : NF' e → LenExpr e ∧ ∀ fs sp, e = .seq fs sp → LenParts fs from fun hnf => (h hnf).1
  refine Expr.rec
    (motive_1 := fun e => NF' e → LenExpr e ∧ ∀ fs sp, e = .seq fs sp → LenParts fs)
    (motive_2 := fun es => NFL' es → LenTail es ∧ LenWord es ∧ LenParts es)
    ?_ ?_ ?_ ?_ ?_ ?_ ?_ ?_ ?_ ?_ ?_ ?_ e
  · intro t d l sp h
    refine ⟨fun lay _ ctx => ?_, fun _ _ e => by cases e⟩
    simp only [NF'] at h
    have hpos := length_escT_pos t.toList h.2.1 h.2.2.2
    cases d with
    | none =>
      have := length_parenIfL'_ge lay (ctx == 5 || (ctx == 4 && endsDot t.toList)) (escT 0 t.toList)
      rw [ppL'_bare]; simp only [needF]; omega
    | some d =>
      rw [ppL'_descr]; simp only [needF, List.length_append]; omega
  · intro n l sp _
    refine ⟨fun lay _ ctx => ?_, fun _ _ e => by cases e⟩
    simp only [ppL', needF, List.length_cons, List.length_append, List.length_nil]; omega
  · intro c a l sp _
    refine ⟨fun lay _ ctx => ?_, fun _ _ e => by cases e⟩
    simp only [ppL', needF, cmdText, List.length_cons, List.length_append, List.length_nil]; omega
  · intro cs sp ih h
    simp only [NF'] at h
    refine ⟨fun lay adm ctx => ?_, fun fs sp' e => by cases e; exact (ih h.2).2.2⟩
    have := lenExpr_list lay adm (decide (3 ≤ ctx)) 3 (by omega) (by omega) cs h.1 (ih h.2).2.2
    simp only [ppL', needF]
    omega
  · intro cs sp ih h
    simp only [NF'] at h
    refine ⟨fun lay adm ctx => ?_, fun _ _ e => by cases e⟩
    have := lenExpr_list lay adm (decide (2 ≤ ctx)) 2 (by omega) (by omega) cs h.1 (ih h.2).2.2
    simp only [ppL', needF]
    omega
  · intro cs sp ih h
    simp only [NF'] at h
    refine ⟨fun lay adm ctx => ?_, fun _ _ e => by cases e⟩
    have := lenExpr_list lay adm (decide (1 ≤ ctx)) 1 (by omega) (by omega) cs h.1 (ih h.2).2.2
    simp only [ppL', needF]
    omega
  · intro c sp ih h
    simp only [NF'] at h
    refine ⟨fun lay adm ctx => ?_, fun _ _ e => by cases e⟩
    have := (ih h).1 (lay.sub 0) (adm.sub 0) 0
    simp only [ppL', needF, List.length_cons, List.length_append, List.length_nil]; omega
  · intro c sp ih h
    simp only [NF'] at h
    refine ⟨fun lay adm ctx => ?_, fun _ _ e => by cases e⟩
    have := (ih h).1 (lay.sub 0) (adm.sub 0) 4
    have h2 := length_parenIfL'_ge lay (ctx == 4) (ppL' (lay.sub 0) 4 c ++ lay.dots [] ++ ['.', '.', '.'])
    simp only [List.length_cons, List.length_append, List.length_nil] at h2
    simp only [ppL', needF]; omega
  · intro c d sp ih h
    simp only [NF'] at h
    refine ⟨fun lay adm ctx => ?_, fun _ _ e => by cases e⟩
    have := (ih h).1 (lay.sub 0) (adm.sub 0) 5
    have h2 := length_parenIfL'_ge lay (decide (4 ≤ ctx))
      (ppL' (lay.sub 0) 5 c ++ descrTextL (lay.descr []) d.toList)
    have h3 : (ppL' (lay.sub 0) 5 c).length + 2 ≤
        (ppL' (lay.sub 0) 5 c ++ descrTextL (lay.descr []) d.toList).length := by
      simp only [descrTextL, List.length_cons, List.length_append, List.length_nil]; omega
    simp only [ppL', needF]; omega
  · intro c l sp ih h
    refine ⟨fun lay adm ctx => ?_, fun _ _ e => by cases e⟩
    cases c with
    | seq fs sp1 =>
      simp only [NF'] at h
      obtain ⟨_, hlen, hN⟩ := h
      have hparts := (ih ⟨hlen, NFW_NFL fs hN⟩).2 fs sp1 rfl
      obtain ⟨f1, f2, fs', rfl⟩ := two_le_length hlen
      have h1 := lenExpr_word (lay.sub 0) (adm.sub 0) f1 f2 fs' hparts
      have h2 := length_parenIfL'_ge lay
        (ctx == 4 || ctx == 6 || (ctx == 5 && lastBare false (.cons f1 (.cons f2 fs'))))
        (ppListL' (lay.sub 0) 6 (.cons f1 (.cons f2 fs')))
      rw [ppL'_sub]
      simp only [needF]
      omega
    | _ => simp [NF'] at h
  · intro _
    exact ⟨fun _ _ _ _ _ => .inr rfl, fun _ _ => by simp [needFL, ppTailL'], fun _ _ h => by cases h⟩
  · intro e es ihe ihes h
    simp only [NFL'] at h
    have he := (ihe h.1).1
    obtain ⟨hT, hW, _⟩ := ihes h.2
    exact ⟨lenTail_cons e es he hT, lenWord_cons e es he hW, fun _ _ e => by cases e; exact ⟨he, hT, hW⟩⟩

def StmtNF' : Stmt → Prop
  | .call n _ e => n.toList ≠ [] ∧ (∀ c ∈ n.toList, isRegular c = true) ∧ n.toList.head? ≠ some '#' ∧ NF' e
  | .defn n _ none e => n.toList ≠ [] ∧ (∀ c ∈ n.toList, c ≠ '>' ∧ c ≠ '@') ∧ NF' e
  | .defn n _ (some (sh, _)) e => n.toList ≠ [] ∧ (∀ c ∈ n.toList, c ≠ '>' ∧ c ≠ '@') ∧
      sh.toList ≠ [] ∧ (∀ c ∈ sh.toList, c ≠ '>') ∧ NF' e

theorem StmtNF'.expr {st : Stmt} (h : StmtNF' st) : NF' st.expr := by
  cases st with
  | call n sp e => simp only [StmtNF'] at h; exact h.2.2.2
  | defn n sp shell e =>
    cases shell with
    | none => simp only [StmtNF'] at h; exact h.2.2
    | some p => obtain ⟨sh, y⟩ := p; simp only [StmtNF'] at h; exact h.2.2.2.2

structure StmtLayout' where
  eq : Bool
  name : List Char
  sign : List Char
  expr : Layout'
  semi : List Char
  next : List Char

structure StmtLayout'.Adm (L : StmtLayout') (st : Stmt) : Prop where
  name : IsLayout L.name
  nameCall : st.isCall = true → L.name ≠ [] ∧ ∀ r, L.name ≠ '#' :: r
  sign : IsLayout L.sign
  expr : L.expr.Adm
  semi : IsLayoutW L.semi
  next : IsLayout L.next

def ppBodyL' (L : StmtLayout') : Stmt → List Char
  | .call n _ e => n.toList ++ L.name ++ ppL' L.expr 0 e
  | .defn n _ none e => '<' :: n.toList ++ '>' :: L.name ++ signText L.eq ++ L.sign ++ ppL' L.expr 0 e
  | .defn n _ (some (sh, _)) e =>
    '<' :: n.toList ++ '@' :: sh.toList ++ '>' :: L.name ++ signText L.eq ++ L.sign ++ ppL' L.expr 0 e

/-- a statement with the layout `L`; `semi = false`: the last statement of a file, without `;` -/
def ppStmtL' (L : StmtLayout') (semi : Bool) (st : Stmt) : List Char :=
  ppBodyL' L st ++ L.semi ++ endText semi L.next

structure GLayout' where
  lead : List Char
  stmt : Nat → StmtLayout'
  semi : Bool

structure GLayout'.Adm (G : GLayout') (g : Grammar) : Prop where
  lead : IsLayout G.lead
  stmt : ∀ i st, g[i]? = some st → (G.stmt i).Adm st

/-- the statements one after the other; every statement but the last has its `;`, the last one if `fin` -/
def ppStmtsL' (fin : Bool) : (Nat → StmtLayout') → List Stmt → List Char
  | _, [] => []
  | L, st :: sts => ppStmtL' (L 0) (fin || !sts.isEmpty) st ++ ppStmtsL' fin (fun i => L (i + 1)) sts

def ppGrammarL' (G : GLayout') (g : Grammar) : List Char := G.lead ++ ppStmtsL' G.semi G.stmt g

theorem ppBodyL'_defn (L : StmtLayout') (n : String) (sp : Span) (shell : Option (String × Span)) (e : Expr) :
    ppBodyL' L (.defn n sp shell e) =
      headText n shell ++ (L.name ++ (signText L.eq ++ (L.sign ++ ppL' L.expr 0 e))) := by
  cases shell with
  | none => simp [ppBodyL', headText]
  | some p => obtain ⟨sh, x⟩ := p; simp [ppBodyL', headText]

theorem ppBodyL'_head (L : StmtLayout') (st : Stmt) (hst : StmtNF' st) :
    ∃ c r, ppBodyL' L st = c :: r ∧ notBlank c = true := by
  cases st with
  | call n sp e =>
    simp only [StmtNF'] at hst
    obtain ⟨h1, h2, h3, _⟩ := hst
    cases hn : n.toList with
    | nil => exact absurd hn h1
    | cons x t =>
      rw [hn] at h2 h3
      refine ⟨x, t ++ L.name ++ ppL' L.expr 0 e, by simp [ppBodyL', hn], ?_⟩
      exact (starter_spec (regular_starter (h2 x (by simp)) (by simpa using h3))).1
  | defn n sp shell e =>
    cases shell with
    | none => exact ⟨'<', _, rfl, by decide⟩
    | some p => obtain ⟨sh, x⟩ := p; exact ⟨'<', _, rfl, by decide⟩

theorem NBHead_ppStmtL' (L : StmtLayout') (semi : Bool) (st : Stmt) (hst : StmtNF' st) (X : List Char) :
    NBHead (ppStmtL' L semi st ++ X) := by
  obtain ⟨c, r, h, hc⟩ := ppBodyL'_head L st hst
  unfold ppStmtL'
  rw [h]
  exact NBHead_cons c _ hc

theorem NBHead_ppStmtsL' (fin : Bool) (L : Nat → StmtLayout') (g : List Stmt) (hg : ∀ st ∈ g, StmtNF' st) :
    NBHead (ppStmtsL' fin L g) := by
  cases g with
  | nil => exact NBHead_nil
  | cons st sts => exact NBHead_ppStmtL' _ _ st (hg st (by simp)) _

theorem length_ppStmtL'_pos (L : StmtLayout') (semi : Bool) (st : Stmt) (hst : StmtNF' st) :
    1 ≤ (ppStmtL' L semi st).length := by
  obtain ⟨c, r, h, _⟩ := ppBodyL'_head L st hst
  simp only [ppStmtL', h, List.length_append, List.length_cons]; omega

theorem length_expr_le (L : StmtLayout') (semi : Bool) (st : Stmt) :
    (ppL' L.expr 0 st.expr).length ≤ (ppStmtL' L semi st).length := by
  have : (ppL' L.expr 0 st.expr).length ≤ (ppBodyL' L st).length := by
    cases st with
    | call n sp e => simp only [ppBodyL', Stmt.expr, List.length_append]; omega
    | defn n sp shell e =>
      cases shell with
      | none => simp only [ppBodyL', Stmt.expr, List.length_append, List.length_cons]; omega
      | some p => obtain ⟨sh, x⟩ := p; simp only [ppBodyL', Stmt.expr, List.length_append, List.length_cons]; omega
  simp only [ppStmtL', List.length_append]; omega

theorem adm_tail' {L : Nat → StmtLayout'} {st : Stmt} {sts : List Stmt}
    (h : ∀ i x, (st :: sts)[i]? = some x → (L i).Adm x) :
    ∀ i x, sts[i]? = some x → (L (i + 1)).Adm x :=
  fun i x hx => h (i + 1) x (by simpa using hx)

/-- ten units of fuel for every character of the file cover every expression of the file -/
theorem needF_le_stmts (fin : Bool) : ∀ (g : List Stmt) (L : Nat → StmtLayout'), (∀ st ∈ g, StmtNF' st) →
    (∀ i st, g[i]? = some st → (L i).Adm st) →
    ∀ st ∈ g, needF st.expr + 1 ≤ 10 * (ppStmtsL' fin L g).length
  | [], _, _, _, st, h => by cases h
  | x :: xs, L, hg, hadm, st, h => by
    simp only [ppStmtsL', List.length_append]
    rcases List.mem_cons.mp h with rfl | h'
    · have hnf : NF' st.expr := (hg st (by simp)).expr
      have h1 := needF_le_length st.expr hnf (L 0).expr (hadm 0 st (by simp)).expr 0
      have h2 := length_expr_le (L 0) (fin || !xs.isEmpty) st
      omega
    · have := needF_le_stmts fin xs (fun i => L (i + 1)) (fun y hy => hg y (by simp [hy])) (adm_tail' hadm) st h'
      omega

theorem length_le_ppStmtsL' (fin : Bool) : ∀ (g : List Stmt) (L : Nat → StmtLayout'), (∀ st ∈ g, StmtNF' st) →
    g.length ≤ (ppStmtsL' fin L g).length
  | [], _, _ => by simp
  | x :: xs, L, hg => by
    have h1 := length_ppStmtL'_pos (L 0) (fin || !xs.isEmpty) x (hg x (by simp))
    have h2 := length_le_ppStmtsL' fin xs (fun i => L (i + 1)) (fun y hy => hg y (by simp [hy]))
    simp only [ppStmtsL', List.length_append, List.length_cons]; omega

def ppStmt' : Stmt → List Char
  | .call n _ e => n.toList ++ ' ' :: pp' 0 e ++ [';']
  | .defn n _ none e => '<' :: n.toList ++ '>' :: ' ' :: ':' :: ':' :: '=' :: ' ' :: pp' 0 e ++ [';']
  | .defn n _ (some (sh, _)) e =>
    '<' :: n.toList ++ '@' :: sh.toList ++ '>' :: ' ' :: ':' :: ':' :: '=' :: ' ' :: pp' 0 e ++ [';']

def ppGrammar' : Grammar → List Char
  | [] => []
  | st :: sts => ppStmt' st ++ (if sts.isEmpty then [] else ['\n']) ++ ppGrammar' sts

def plainStmt' (nl : Bool) : StmtLayout' :=
  ⟨false, [' '], [' '], plainLayout', [], if nl then ['\n'] else []⟩

def plainG' (k : Nat) : GLayout' := ⟨[], fun i => plainStmt' (decide (i + 1 < k)), true⟩

theorem plainStmt'_adm (nl : Bool) (st : Stmt) : (plainStmt' nl).Adm st where
  name := by show IsLayout [' ']; decide
  nameCall := fun _ => ⟨by simp [plainStmt'], fun r e => by cases e⟩
  sign := by show IsLayout [' ']; decide
  expr := plainLayout'_adm
  semi := IsLayoutW.nil
  next := by cases nl <;> (simp only [plainStmt']; decide)

theorem plainG'_adm (g : Grammar) : (plainG' g.length).Adm g :=
  ⟨rfl, fun _ st _ => plainStmt'_adm _ st⟩

theorem ppStmtL'_plain (nl : Bool) (st : Stmt) :
    ppStmtL' (plainStmt' nl) true st = ppStmt' st ++ (if nl then ['\n'] else []) := by
  cases st with
  | call n sp e => simp [ppStmtL', ppBodyL', ppStmt', plainStmt', endText, ppL'_plain]
  | defn n sp shell e =>
    cases shell with
    | none => simp [ppStmtL', ppBodyL', ppStmt', plainStmt', endText, signText, ppL'_plain]
    | some p =>
      obtain ⟨sh, x⟩ := p; simp [ppStmtL', ppBodyL', ppStmt', plainStmt', endText, signText, ppL'_plain]

theorem ppStmtsL'_plain : ∀ (g : List Stmt) (L : Nat → StmtLayout'),
    (∀ i, L i = plainStmt' (decide (i + 1 < g.length))) → ppStmtsL' true L g = ppGrammar' g
  | [], _, _ => rfl
  | st :: sts, L, h => by
    have ih := ppStmtsL'_plain sts (fun i => L (i + 1)) (fun i => by rw [h (i + 1)]; simp)
    simp only [ppStmtsL', ppGrammar', ih, h 0, Bool.true_or, ppStmtL'_plain]
    cases sts <;> simp

theorem ppGrammar'_eq (g : Grammar) : ppGrammar' g = ppGrammarL' (plainG' g.length) g := by
  simp only [ppGrammarL', plainG', List.nil_append]
  exact (ppStmtsL'_plain g _ (fun _ => rfl)).symm

theorem StmtNF_sub (st : Stmt) (h : StmtNF st) : StmtNF' st := by
  cases st with
  | call n sp e =>
    simp only [StmtNF] at h; simp only [StmtNF']
    exact ⟨h.1, h.2.1, h.2.2.1, NF_sub e h.2.2.2⟩
  | defn n sp shell e =>
    cases shell with
    | none =>
      simp only [StmtNF] at h; simp only [StmtNF']
      exact ⟨h.1, h.2.1, NF_sub e h.2.2⟩
    | some p =>
      obtain ⟨sh, x⟩ := p
      simp only [StmtNF] at h; simp only [StmtNF']
      exact ⟨h.1, h.2.1, h.2.2.1, h.2.2.2.1, NF_sub e h.2.2.2.2⟩

end Complgen.Parse.Full

namespace Complgen.Parse
open Complgen.Parse.Full

/-- a layout of a statement of the smaller fragment as a layout of the larger one: no description is printed,
so the strings before descriptions do not matter -/
def StmtLayout.toFull (L : StmtLayout) : StmtLayout' :=
  ⟨L.eq, L.name, L.sign, Layout'.ofLayout L.expr (fun _ => []), L.semi, L.next⟩

theorem StmtLayout.Adm.toFull {L : StmtLayout} {st : Stmt} (h : L.Adm st) : L.toFull.Adm st :=
  ⟨h.name, h.nameCall, h.sign, Layout'.ofLayout_adm h.expr (fun _ => IsLayoutW.nil), h.semi, h.next⟩

theorem ppBodyL'_toFull (L : StmtLayout) (st : Stmt) (hst : StmtNF st) : ppBodyL' L.toFull st = ppBodyL L st := by
  have h := ppL'_ofLayout st.expr hst.expr L.expr (fun _ => []) 0 (Nat.zero_le 4)
  cases st with
  | call n sp e => exact congrArg (n.toList ++ L.name ++ ·) h
  | defn n sp shell e =>
    cases shell with
    | none => exact congrArg ('<' :: n.toList ++ '>' :: L.name ++ signText L.eq ++ L.sign ++ ·) h
    | some p =>
      exact congrArg ('<' :: n.toList ++ '@' :: p.1.toList ++ '>' :: L.name ++ signText L.eq ++ L.sign ++ ·) h

theorem ppStmtL'_toFull (L : StmtLayout) (semi : Bool) (st : Stmt) (hst : StmtNF st) :
    ppStmtL' L.toFull semi st = ppStmtL L semi st := by
  rw [ppStmtL', ppBodyL'_toFull L st hst]
  rfl

def GLayout.toFull (G : GLayout) : GLayout' := ⟨G.lead, fun i => (G.stmt i).toFull, G.semi⟩

theorem GLayout.Adm.toFull {G : GLayout} {g : Grammar} (h : G.Adm g) : G.toFull.Adm g :=
  ⟨h.lead, fun i st hi => (h.stmt i st hi).toFull⟩

theorem ppStmtsL'_toFull (fin : Bool) : ∀ (g : List Stmt) (L : Nat → StmtLayout), (∀ st ∈ g, StmtNF st) →
    ppStmtsL' fin (fun i => (L i).toFull) g = ppStmtsL fin L g
  | [], _, _ => rfl
  | st :: sts, L, hg => by
    have ih := ppStmtsL'_toFull fin sts (fun i => L (i + 1)) (fun y hy => hg y (by simp [hy]))
    simp only [ppStmtsL', ppStmtsL, ppStmtL'_toFull _ _ st (hg st (by simp)), ih]

theorem ppGrammarL'_toFull (G : GLayout) (g : Grammar) (hg : ∀ st ∈ g, StmtNF st) :
    ppGrammarL' G.toFull g = ppGrammarL G g :=
  congrArg (G.lead ++ ·) (ppStmtsL'_toFull G.semi g G.stmt hg)

/-! ### an example: a grammar, a layout, their texts -/

namespace Full

/-- `cmd a "d" (b | c.) "x" [--o=<V>]...;` and `<V> ::= {{{ ls }}} "files" | x\|y;` -/
def exGrammar' : Grammar :=
  [.call "cmd" default exE,
   .defn "V" default none
     (.alt (.cons (.dd (.cmd "ls" false 0 default) "files" default)
       (.cons (.term "x|y" none 0 default) .nil)) default)]

theorem exGrammar'_nf : ∀ st ∈ exGrammar', StmtNF' st := by
  have e1 : "cmd".toList = ['c', 'm', 'd'] := by rfl
  have e2 : "V".toList = ['V'] := by rfl
  have e3 : "ls".toList = ['l', 's'] := by rfl
  have e4 : "x|y".toList = ['x', '|', 'y'] := by rfl
  intro st hst
  simp only [exGrammar', List.mem_cons, List.not_mem_nil, or_false] at hst
  rcases hst with rfl | rfl
  · simp only [StmtNF', e1]
    exact ⟨by decide, by decide, by decide, exE_nf⟩
  · simp only [StmtNF', NF', NFL', ExprL.length, e2, e3, e4]
    decide

theorem ppGrammar'_exGrammar' : ppGrammar' exGrammar' =
    "cmd a \"d\" (b | c.) \"x\" [--o=<V>]...;\n<V> ::= {{{ ls }}} \"files\" | x\\|y;".toList := eq_toList_of_ofList_eq rfl

set_option maxRecDepth 100000 in
example : ppGrammar' exGrammar' =
    "cmd a \"d\" (b | c.) \"x\" [--o=<V>]...;\n<V> ::= {{{ ls }}} \"files\" | x\\|y;".toList := ppGrammar'_exGrammar'

/-- a layout of a statement: a tab after the name, `=` for `::=`, comments inside the expression, a blank
before `;`, a comment after it -/
def exStmtLayout' : StmtLayout' := ⟨true, ['\t'], [], exLay, [' '], "\n\n# next\n".toList⟩

theorem exStmtLayout'_adm (st : Stmt) : exStmtLayout'.Adm st where
  name := by show IsLayout ['\t']; decide
  nameCall := fun _ => by
    show (['\t'] : List Char) ≠ [] ∧ ∀ r, (['\t'] : List Char) ≠ '#' :: r
    exact ⟨by simp, fun r e => by cases e⟩
  sign := IsLayout.nil
  expr := exLay_adm
  semi := by
    show IsLayoutW [' ']
    exact ⟨by decide, fun r e => by cases e⟩
  next := by show IsLayout "\n\n# next\n".toList; decide

/-- a layout of the example: a comment at the beginning of the file, `exStmtLayout'` for both statements,
no `;` at the end of the file -/
def exGLayout' : GLayout' := ⟨"# example\n".toList, fun _ => exStmtLayout', false⟩

theorem exGLayout'_adm : exGLayout'.Adm exGrammar' where
  lead := by show IsLayout "# example\n".toList; decide
  stmt := fun _ st _ => exStmtLayout'_adm st

end Full

end Complgen.Parse
