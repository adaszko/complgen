/-
Association lists (`Check.AList`, which stands for the hash maps of check.rs): a lookup succeeds exactly on
the keys, and the facts about appending or inserting an entry and mapping over the entries that follow from it.
-/
import Complgen.Model.Check
namespace Complgen.Check

theorem isSome_get?_iff {α} (m : AList α) (k : String) : (m.get? k).isSome = true ↔ k ∈ m.map (·.1) := by
  unfold AList.get?
  simp only [Option.isSome_map, List.find?_isSome, List.mem_map, beq_iff_eq]

theorem get?_none_iff {α} (m : AList α) (k : String) : m.get? k = none ↔ k ∉ m.map (·.1) := by
  rw [← isSome_get?_iff, Bool.not_eq_true, Option.isSome_eq_false_iff, Option.isNone_iff_eq_none]

theorem get?_some_of_mem {α} (m : AList α) (k : String) (v : α) (h : (k, v) ∈ m) : (m.get? k).isSome :=
  (isSome_get?_iff m k).mpr (List.mem_map.mpr ⟨_, h, rfl⟩)

theorem contains_iff_key {α} (m : AList α) (k : String) : m.contains k = true ↔ k ∈ m.map (·.1) := by
  unfold AList.contains
  simp only [List.any_eq_true, List.mem_map, beq_iff_eq]

theorem mem_of_get?_some {α} (m : AList α) (k : String) (v : α) (h : m.get? k = some v) : (k, v) ∈ m := by
  unfold AList.get? at h
  obtain ⟨p, hp, rfl⟩ := Option.map_eq_some_iff.mp h
  have hk : p.1 = k := by simpa using List.find?_some hp
  subst hk
  exact List.mem_of_find?_eq_some hp

theorem contains_of_get?_isSome {α} (m : AList α) (k : String) (h : (m.get? k).isSome = true) :
    m.contains k = true :=
  (contains_iff_key m k).mpr ((isSome_get?_iff m k).mp h)

theorem get?_none_of_contains_false {α} (m : AList α) (k : String) (h : m.contains k = false) : m.get? k = none :=
  (get?_none_iff m k).mpr fun hk => Bool.false_ne_true (h ▸ (contains_iff_key m k).mpr hk)

theorem insert_keys {α} (m : AList α) (k : String) (v : α) (k' : String) :
    k' ∈ (m.insert k v).map (·.1) ↔ k' ∈ m.map (·.1) ∨ k' = k := by
  unfold AList.insert
  cases hc : m.contains k with
  | true =>
    have hkeys : (m.map fun p => if p.1 == k then (k, v) else p).map (·.1) = m.map (·.1) := by
      rw [List.map_map]
      apply List.map_congr_left
      intro p _
      by_cases hp : p.1 = k
      · simp [hp]
      · simp [hp]
    simp only [if_true, hkeys]
    exact ⟨.inl, fun h => h.elim id fun e => e ▸ (contains_iff_key m k).mp hc⟩
  | false =>
    simp only [Bool.false_eq_true, if_false, List.map_append, List.mem_append, List.map_cons, List.map_nil,
      List.mem_singleton]

theorem get?_append_ne {α} (acc : AList α) (n x : String) (v : α) (h : x ≠ n) :
    (acc ++ [(n, v)]).get? x = acc.get? x := by
  unfold AList.get?
  rw [List.find?_append]
  have hb : (n == x) = false := by simpa using (Ne.symm h)
  cases List.find? (fun p => p.1 == x) acc with
  | none => simp [List.find?, hb]
  | some v => rfl

theorem find?_map_key {α β} (f : String × α → String × β) (hf : ∀ p, (f p).1 = p.1) (k : String)
    (l : List (String × α)) : (l.map f).find? (fun p => p.1 == k) = (l.find? (fun p => p.1 == k)).map f := by
  rw [List.find?_map]
  exact congrArg (fun q => (l.find? q).map f) (funext fun p => by simp only [Function.comp_apply, hf])

end Complgen.Check
