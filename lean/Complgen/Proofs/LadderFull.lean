/-
C05 (operator ladder): the plain printers and the fragments of trees they are for.

`pp ctx e`, `NF`: nonterminals `<n>`, commands `{{{ c }}}`, literals of regular characters (no escapes, no
descriptions), `.seq`/`.alt`/`.fb` with at least two children, `.opt`, `.many1`, printed with the fewest
parentheses the precedences require (`||` loosest, then `|`, then juxtaposition with blanks, then postfix
`...`; `[ ]` and `( )` group).  A literal must not begin with `#`: after a blank, `[` or `(` the parser would
read it as a comment.  The context is the level of the ladder the text has to be read at: 0 `fallback`,
1 operand of `||`, 2 operand of `|`, 3 word of a sequence, 4 operand of a postfix `...`.

`pp' ctx e`, `NF'`, the larger fragment:
  (a) literals over every character the lexer accepts (regular characters and the escapable ones),
      printed with the fewest escapes (`escT` of `Proofs/Lexer.lean`: backslash escapes, a dot escaped
      only when two unescaped dots stand before it);
  (b) descriptions: a literal with its description `lit "descr"` wherever a literal may stand, and the
      distributed description `.dd c d` (`c "descr"`, `c` any expression) as `sseod` builds it;
  (c) juxtaposition without blanks, `.sub (.seq fs _) 0 _` (`--opt=<VALUE>`, `<FILE>.txt`, `[a]<X>...`),
      as `subwordSeq` builds it (factors flattened).
Two more contexts: 5 the expression a description is attached to (child of `.dd`, read by `subwordSeq` and
followed by `"`), 6 a factor of a word (read by `unary`, followed directly by the next factor).  Parentheses
beyond those of `pp`:
  * a literal without description: at 5 always (`a "d"` is the literal with its own description, not
    `(a) "d"`), at 4 when it ends with a dot (`a....` is `a` `...` `.`, so `(a.)...`);
  * postfix `...`: at 4 only (`<X>... "d"`, `a<X>...` need none);  `.dd`: at 4, 5, 6;
  * a word: at 4 and 6, at 5 when its last factor is a literal without description.
`NF'` (what the parser can return and the printer can write): as `NF`, with
  * literals over regular or escapable characters, not empty, not beginning with `#` (a comment after a
    blank or a bracket; `#` cannot be escaped); any description;
  * `.dd c d` for every `c` of the fragment;
  * `.sub (.seq fs _) 0 _` with at least two factors, `NFW fs`: every factor is in the fragment and
    contains no `.sub` (the parser flattens the factors), and a literal without description is followed
    by a factor whose text begins with `<`, `[`, `(`, `{` (two adjacent literals are one literal).
The restrictions and the extra parentheses are needed: `word_two_literals`, `word_in_word`,
`hash_literal`, `dots_unparenthesised`, `dd_unparenthesised` (by `decide`, at the end of the file).
`NF_sub`, `pp'_eq_pp`: the smaller fragment and its printer are instances.
-/
import Complgen.Proofs.Ladder
namespace Complgen.Parse

def parenIf (b : Bool) (T : List Char) : List Char := if b then '(' :: T ++ [')'] else T

def sepS : List Char := [' ']

def sepA : List Char := [' ', '|', ' ']

def sepF : List Char := [' ', '|', '|', ' ']

mutual
def pp : Nat → Expr → List Char
  | _, .term t _ _ _ => t.toList
  | _, .nonterm n _ _ => '<' :: n.toList ++ ['>']
  | _, .cmd c _ _ _ => cmdText c.toList
  | ctx, .seq cs _ => parenIf (decide (3 ≤ ctx)) (ppList 3 sepS cs)
  | ctx, .alt cs _ => parenIf (decide (2 ≤ ctx)) (ppList 2 sepA cs)
  | ctx, .fb cs _ => parenIf (decide (1 ≤ ctx)) (ppList 1 sepF cs)
  | _, .opt c _ => '[' :: pp 0 c ++ [']']
  | ctx, .many1 c _ => parenIf (decide (4 ≤ ctx)) (pp 4 c ++ ['.', '.', '.'])
  | _, .dd _ _ _ => []
  | _, .sub _ _ _ => []
def ppList : Nat → List Char → ExprL → List Char
  | _, _, .nil => []
  | ctx, sep, .cons e es => pp ctx e ++ ppTail ctx sep es
def ppTail : Nat → List Char → ExprL → List Char
  | _, _, .nil => []
  | ctx, sep, .cons e es => sep ++ pp ctx e ++ ppTail ctx sep es
end

mutual
def NF : Expr → Prop
  | .term t d l _ => d = none ∧ l = 0 ∧ t.toList ≠ [] ∧ (∀ c ∈ t.toList, isRegular c = true) ∧
      t.toList.head? ≠ some '#'
  | .nonterm n l _ => l = 0 ∧ n.toList ≠ [] ∧ ∀ c ∈ n.toList, c ≠ '>'
  | .cmd c a l _ => a = false ∧ l = 0 ∧ (∀ x, c.toList.head? = some x → isWs x = false) ∧
      (∀ x, c.toList.getLast? = some x → isWs x = false) ∧ noTriple c.toList = true
  | .seq cs _ => 2 ≤ cs.length ∧ NFL cs
  | .alt cs _ => 2 ≤ cs.length ∧ NFL cs
  | .fb cs _ => 2 ≤ cs.length ∧ NFL cs
  | .opt c _ => NF c
  | .many1 c _ => NF c
  | .dd _ _ _ => False
  | .sub _ _ _ => False
def NFL : ExprL → Prop
  | .nil => True
  | .cons e es => NF e ∧ NFL es
end

mutual
def size : Expr → Nat
  | .term _ _ _ _ => 1
  | .nonterm _ _ _ => 1
  | .cmd _ _ _ _ => 1
  | .seq cs _ => 1 + sizeL cs
  | .alt cs _ => 1 + sizeL cs
  | .fb cs _ => 1 + sizeL cs
  | .opt c _ => 1 + size c
  | .many1 c _ => 1 + size c
  | .dd c _ _ => 1 + size c
  | .sub c _ _ => 1 + size c
def sizeL : ExprL → Nat
  | .nil => 0
  | .cons e es => 1 + size e + sizeL es
end

def fuelNeeded (e : Expr) : Nat := 10 * size e

theorem two_le_length {cs : ExprL} (h : 2 ≤ cs.length) : ∃ e1 e2 es, cs = .cons e1 (.cons e2 es) := by
  cases cs with
  | nil => simp [ExprL.length] at h
  | cons e1 cs =>
    cases cs with
    | nil => simp [ExprL.length] at h
    | cons e2 es => exact ⟨e1, e2, es, rfl⟩

namespace Full

def bare : Expr → Bool
  | .term _ none _ _ => true
  | _ => false

def lastBare : Bool → ExprL → Bool
  | b, .nil => b
  | _, .cons e es => lastBare (bare e) es

def descrText (d : List Char) : List Char := ' ' :: '"' :: escD d ++ ['"']

mutual
def pp' : Nat → Expr → List Char
  | ctx, .term t none _ _ => parenIf (ctx == 5 || (ctx == 4 && endsDot t.toList)) (escT 0 t.toList)
  | _, .term t (some d) _ _ => escT 0 t.toList ++ descrText d.toList
  | _, .nonterm n _ _ => '<' :: n.toList ++ ['>']
  | _, .cmd c _ _ _ => cmdText c.toList
  | ctx, .seq cs _ => parenIf (decide (3 ≤ ctx)) (ppList' 3 sepS cs)
  | ctx, .alt cs _ => parenIf (decide (2 ≤ ctx)) (ppList' 2 sepA cs)
  | ctx, .fb cs _ => parenIf (decide (1 ≤ ctx)) (ppList' 1 sepF cs)
  | _, .opt c _ => '[' :: pp' 0 c ++ [']']
  | ctx, .many1 c _ => parenIf (ctx == 4) (pp' 4 c ++ ['.', '.', '.'])
  | ctx, .dd c d _ => parenIf (decide (4 ≤ ctx)) (pp' 5 c ++ descrText d.toList)
  | ctx, .sub (.seq fs _) _ _ => parenIf (ctx == 4 || ctx == 6 || (ctx == 5 && lastBare false fs)) (ppList' 6 [] fs)
  | _, .sub _ _ _ => []
def ppList' : Nat → List Char → ExprL → List Char
  | _, _, .nil => []
  | ctx, sep, .cons e es => pp' ctx e ++ ppTail' ctx sep es
def ppTail' : Nat → List Char → ExprL → List Char
  | _, _, .nil => []
  | ctx, sep, .cons e es => sep ++ pp' ctx e ++ ppTail' ctx sep es
end

mutual
/-- no juxtaposition node anywhere in the tree (`flatten_expr` leaves it unchanged) -/
def NoSub : Expr → Prop
  | .term _ _ _ _ => True
  | .nonterm _ _ _ => True
  | .cmd _ _ _ _ => True
  | .seq cs _ => NoSubL cs
  | .alt cs _ => NoSubL cs
  | .fb cs _ => NoSubL cs
  | .opt c _ => NoSub c
  | .many1 c _ => NoSub c
  | .dd c _ _ => NoSub c
  | .sub _ _ _ => False
def NoSubL : ExprL → Prop
  | .nil => True
  | .cons e es => NoSub e ∧ NoSubL es
end

/-- the text begins with `<`, `[`, `(` or `{`: it cannot continue a literal -/
def BracketHead (T : List Char) : Prop := ∃ c r, T = c :: r ∧ (c = '<' ∨ c = '[' ∨ c = '(' ∨ c = '{')

mutual
def NF' : Expr → Prop
  | .term t _ l _ => l = 0 ∧ t.toList ≠ [] ∧ (∀ c ∈ t.toList, isRegular c = true ∨ isEsc c = true) ∧
      t.toList.head? ≠ some '#'
  | .nonterm n l _ => l = 0 ∧ n.toList ≠ [] ∧ ∀ c ∈ n.toList, c ≠ '>'
  | .cmd c a l _ => a = false ∧ l = 0 ∧ (∀ x, c.toList.head? = some x → isWs x = false) ∧
      (∀ x, c.toList.getLast? = some x → isWs x = false) ∧ noTriple c.toList = true
  | .seq cs _ => 2 ≤ cs.length ∧ NFL' cs
  | .alt cs _ => 2 ≤ cs.length ∧ NFL' cs
  | .fb cs _ => 2 ≤ cs.length ∧ NFL' cs
  | .opt c _ => NF' c
  | .many1 c _ => NF' c
  | .dd c _ _ => NF' c
  | .sub (.seq fs _) l _ => l = 0 ∧ 2 ≤ fs.length ∧ NFW fs
  | .sub _ _ _ => False
def NFL' : ExprL → Prop
  | .nil => True
  | .cons e es => NF' e ∧ NFL' es
/-- the factors of a word: no juxtaposition inside a factor (the parser flattens the factors), and a
literal without description is followed by a factor that begins with a bracket (two adjacent literals
would be read as one; `ppTail' 6 [] fs` is the concatenation of the texts of the factors `fs`) -/
def NFW : ExprL → Prop
  | .nil => True
  | .cons f fs => NF' f ∧ NoSub f ∧ (bare f = true → fs = .nil ∨ BracketHead (ppTail' 6 [] fs)) ∧ NFW fs
end

theorem NFW_NFL : ∀ fs : ExprL, NFW fs → NFL' fs
  | .nil, _ => trivial
  | .cons f fs, h => by
    simp only [NFW] at h
    simp only [NFL']
    exact ⟨h.1, NFW_NFL fs h.2.2.2⟩

theorem pp'_bare (k : Nat) (t : String) (l : Nat) (sp : Span) : pp' k (.term t none l sp) =
    parenIf (k == 5 || (k == 4 && endsDot t.toList)) (escT 0 t.toList) := by rw [pp']

theorem pp'_descr (k : Nat) (t d : String) (l : Nat) (sp : Span) : pp' k (.term t (some d) l sp) =
    escT 0 t.toList ++ descrText d.toList := by rw [pp']

/-- what may follow the expression when it is a factor of a word -/
def WOf : Expr → List Char → Prop
  | .term t none _ _ => WL t.toList
  | _ => WD

def Starts (T : List Char) : Prop := ∃ c r, T = c :: r ∧ notBlank c = true ∧ c ≠ '"'

theorem Starts.nb {T : List Char} (h : Starts T) : NBStart T := by
  obtain ⟨c, r, e, h1, _⟩ := h; exact ⟨c, r, e, h1⟩

theorem Starts.paren (T : List Char) : Starts (paren T) := ⟨'(', T ++ [')'], rfl, by decide, by decide⟩

theorem litStarts (t : List Char) (ht : t ≠ []) (hh : t.head? ≠ some '#') : Starts (escT 0 t) := by
  obtain ⟨x, r, hx, hstart⟩ := escT_head t ht hh
  obtain ⟨h1, h2, _⟩ := litStart_spec hstart
  exact ⟨x, r, hx, h1, h2⟩

theorem escT_dots3' (t X : List Char) (ht : t ≠ []) (he : endsDot t = false) :
    dots3 (escT 0 t ++ X) = false := by
  cases t with
  | nil => exact absurd rfl ht
  | cons c t =>
    by_cases hc : c = '.'
    · subst hc
      rw [escT_dot_lt 0 t (by omega)]
      cases t with
      | nil => simp [endsDot] at he
      | cons c2 t2 =>
        by_cases hc2 : c2 = '.'
        · subst hc2
          rw [escT_dot_lt 1 t2 (by omega)]
          cases t2 with
          | nil => simp [endsDot] at he
          | cons c3 t3 =>
            exact dots3_dot_dot_notDot _ (escT_notDot 2 _ X (by simp) (.inr (Nat.le_refl _)))
        · have := escT_notDot 1 (c2 :: t2) X (by simp) (.inl ⟨c2, t2, rfl, hc2⟩)
          exact dots3_dot_notDot _ this
    · exact dots3_notDot _ (escT_notDot 0 (c :: t) X (by simp) (.inl ⟨c, t, rfl, hc⟩))

theorem BracketHead.notDot {T : List Char} (h : BracketHead T) (X : List Char) : NotDotHead (T ++ X) := by
  obtain ⟨c, r, rfl, hc⟩ := h
  refine .inr ⟨c, r ++ X, rfl, ?_⟩
  rcases hc with rfl | rfl | rfl | rfl <;> decide

theorem BracketHead.wl {T : List Char} (h : BracketHead T) (X t : List Char) : WL t (T ++ X) := by
  obtain ⟨c, r, rfl, hc⟩ := h
  have h1 : isRegular c = false ∧ c ≠ '\\' ∧ c ≠ '.' ∧ notBlank c = true ∧ c ≠ '"' := by
    rcases hc with rfl | rfl | rfl | rfl <;> decide
  obtain ⟨h1, h2, h3, h4, h5⟩ := h1
  have hab : afterBlanks (c :: r ++ X) = c :: (r ++ X) := afterBlanks_notBlank c _ h4
  refine ⟨⟨⟨dec'_other c _ h1 h2 h3, ?_⟩, .inl (.inr ⟨c, r ++ X, rfl, h3⟩)⟩, ?_⟩
  · intro r' e; rw [hab] at e; cases e; exact h5 rfl
  · unfold WD; rw [hab]; exact dots3_cons_ne _ _ h3

theorem flatten_noSub (e : Expr) : NoSub e → Check.flatten e = e := by
  refine Expr.rec (motive_1 := fun e => NoSub e → Check.flatten e = e)
    (motive_2 := fun es => NoSubL es → Check.flattenL es = es)
    ?_ ?_ ?_ ?_ ?_ ?_ ?_ ?_ ?_ ?_ ?_ ?_ e
  · intro t d l sp _; simp [Check.flatten]
  · intro n l sp _; simp [Check.flatten]
  · intro c a l sp _; simp [Check.flatten]
  · intro cs sp ih h; simp only [NoSub] at h; simp [Check.flatten, ih h]
  · intro cs sp ih h; simp only [NoSub] at h; simp [Check.flatten, ih h]
  · intro cs sp ih h; simp only [NoSub] at h; simp [Check.flatten, ih h]
  · intro c sp ih h; simp only [NoSub] at h; simp [Check.flatten, ih h]
  · intro c sp ih h; simp only [NoSub] at h; simp [Check.flatten, ih h]
  · intro c d sp ih h; simp only [NoSub] at h; simp [Check.flatten, ih h]
  · intro c l sp _ h; simp [NoSub] at h
  · intro _; simp [Check.flattenL]
  · intro e es ihe ihes h; simp only [NoSubL] at h; simp [Check.flattenL, ihe h.1, ihes h.2]

theorem escT_regular : ∀ (k : Nat) (t : List Char), (∀ c ∈ t, isRegular c = true) → escT k t = t
  | _, [], _ => rfl
  | k, c :: t, h => by
    have hc := h c (by simp)
    have hd : c ≠ '.' := regular_ne hc _ not_regular_dot
    rw [escT_reg k c t hd hc, escT_regular 0 t (fun x hx => h x (by simp [hx]))]

theorem endsDot_regular (t : List Char) (h : ∀ c ∈ t, isRegular c = true) : endsDot t = false := by
  cases hd : endsDot t with
  | false => rfl
  | true =>
    have : t.getLast? = some '.' := by simpa [endsDot] using hd
    have := h _ (List.mem_of_getLast? this)
    rw [not_regular_dot] at this; cases this

theorem NF_sub (e : Expr) : NF e → NF' e := by
  refine Expr.rec (motive_1 := fun e => NF e → NF' e) (motive_2 := fun es => NFL es → NFL' es)
    ?_ ?_ ?_ ?_ ?_ ?_ ?_ ?_ ?_ ?_ ?_ ?_ e
  · intro t d l sp h
    simp only [NF] at h
    simp only [NF']
    exact ⟨h.2.1, h.2.2.1, fun c hc => .inl (h.2.2.2.1 c hc), h.2.2.2.2⟩
  · intro n l sp h; simpa only [NF, NF'] using h
  · intro c a l sp h; simpa only [NF, NF'] using h
  · intro cs sp ih h; simp only [NF] at h; simp only [NF']; exact ⟨h.1, ih h.2⟩
  · intro cs sp ih h; simp only [NF] at h; simp only [NF']; exact ⟨h.1, ih h.2⟩
  · intro cs sp ih h; simp only [NF] at h; simp only [NF']; exact ⟨h.1, ih h.2⟩
  · intro c sp ih h; simp only [NF] at h; simp only [NF']; exact ih h
  · intro c sp ih h; simp only [NF] at h; simp only [NF']; exact ih h
  · intro c d sp _ h; simp [NF] at h
  · intro c l sp _ h; simp [NF] at h
  · intro _; trivial
  · intro e es ihe ihes h; simp only [NFL] at h; simp only [NFL']; exact ⟨ihe h.1, ihes h.2⟩

/-- on the smaller fragment the two printers write the same text (contexts 0 to 4, the ones `pp` knows) -/
theorem pp'_eq_pp (e : Expr) : NF e → ∀ ctx, ctx ≤ 4 → pp' ctx e = pp ctx e := by
  refine Expr.rec (motive_1 := fun e => NF e → ∀ ctx, ctx ≤ 4 → pp' ctx e = pp ctx e)
    (motive_2 := fun es => NFL es → ∀ ctx, ctx ≤ 4 → ∀ sep,
      ppList' ctx sep es = ppList ctx sep es ∧ ppTail' ctx sep es = ppTail ctx sep es)
    ?_ ?_ ?_ ?_ ?_ ?_ ?_ ?_ ?_ ?_ ?_ ?_ e
  · intro t d l sp h ctx hctx
    simp only [NF] at h
    obtain ⟨rfl, _, _, h4, _⟩ := h
    have h5 : (ctx == 5) = false := by simp; omega
    rw [pp'_bare, escT_regular 0 _ h4, endsDot_regular _ h4, h5]
    simp [parenIf, pp]
  · intro n l sp _ ctx _; simp only [pp', pp]
  · intro c a l sp _ ctx _; simp only [pp', pp]
  · intro cs sp ih h ctx _; simp only [NF] at h; simp only [pp', pp, (ih h.2 3 (by omega) sepS).1]
  · intro cs sp ih h ctx _; simp only [NF] at h; simp only [pp', pp, (ih h.2 2 (by omega) sepA).1]
  · intro cs sp ih h ctx _; simp only [NF] at h; simp only [pp', pp, (ih h.2 1 (by omega) sepF).1]
  · intro c sp ih h ctx _; simp only [NF] at h; simp only [pp', pp, ih h 0 (by omega)]
  · intro c sp ih h ctx hctx
    simp only [NF] at h
    have : (ctx == 4) = decide (4 ≤ ctx) := by rw [Bool.eq_iff_iff]; simp; omega
    simp only [pp', pp, ih h 4 (by omega), this]
  · intro c d sp _ h; simp [NF] at h
  · intro c l sp _ h; simp [NF] at h
  · intro _ ctx _ sep; simp only [ppList', ppList, ppTail', ppTail, and_self]
  · intro e es ihe ihes h ctx hctx sep
    simp only [NFL] at h
    simp only [ppList', ppList, ppTail', ppTail, ihe h.1 ctx hctx, (ihes h.2 ctx hctx sep).2, and_self]

/-! ### the restrictions of `NF'` and the parentheses of `pp'` are needed -/

def readsBack (e : Expr) : Bool :=
  match fallback (fuelNeeded e) (PState.init (pp' 0 e)) with
  | some (s', e') => s'.rest.isEmpty && e'.eraseSpans == e.eraseSpans
  | none => false

def readsAs (txt : List Char) (e : Expr) : Bool :=
  match fallback 40 (PState.init txt) with
  | some (s', e') => s'.rest.isEmpty && e'.eraseSpans == e.eraseSpans
  | none => false

private def sp0 : Span := ⟨0, 0, 0⟩

private def lit (t : String) : Expr := .term t none 0 sp0

private def word (fs : List Expr) : Expr := .sub (.seq (ExprL.ofList fs) sp0) 0 sp0

set_option maxRecDepth 100000 in
/-- a literal directly followed by a bracket is read back … -/
theorem word_ok : readsBack (word [lit "--opt=", .nonterm "V" 0 sp0]) = true := by decide +kernel

set_option maxRecDepth 100000 in
/-- … but two juxtaposed literals are printed `ab` and read as one literal (`NFW`: a literal without
description must be followed by a bracket) -/
theorem word_two_literals : readsBack (word [lit "a", lit "b"]) = false := by decide +kernel

set_option maxRecDepth 100000 in
/-- a word inside a factor of a word is flattened by the parser (`NFW`: `NoSub`) -/
theorem word_in_word : readsBack (word [lit "a", word [.nonterm "X" 0 sp0, .nonterm "Y" 0 sp0]]) = false := by
  decide

set_option maxRecDepth 100000 in
/-- a literal that begins with `#` is a comment after a blank (`NF'`: the head is not `#`) -/
theorem hash_literal : readsBack (.seq (ExprL.ofList [lit "x", lit "#y"]) sp0) = false := by decide +kernel

set_option maxRecDepth 100000 in
/-- without the parentheses `pp' 4` puts around a literal that ends with a dot, `a.` followed by the
postfix `...` is not read as the repetition of `a.` … -/
theorem dots_unparenthesised : readsAs ['a', '.', '.', '.', '.'] (.many1 (lit "a.") sp0) = false := by decide +kernel

set_option maxRecDepth 100000 in
/-- … with them it is -/
theorem dots_parenthesised : pp' 0 (.many1 (lit "a.") sp0) = ['(', 'a', '.', ')', '.', '.', '.'] ∧
    readsBack (.many1 (lit "a.") sp0) = true := by decide +kernel

set_option maxRecDepth 100000 in
/-- without the parentheses `pp' 5` puts around a literal, `a "d"` is the literal with its own
description, not a description distributed over `(a)` -/
theorem dd_unparenthesised : readsAs ['a', ' ', '"', 'd', '"'] (.dd (lit "a") "d" sp0) = false ∧
    readsBack (.dd (lit "a") "d" sp0) = true := by decide +kernel

end Full

end Complgen.Parse
