/-
Soundness of the certificate checkers of `Complgen.Cert.KAuto`.
-/
import Complgen.Cert.KAuto
import Complgen.Proofs.MyhillNerode
namespace Complgen.Cert

theorem step_eq_none_of_not_mem_keysFrom (a : KAuto) (q : Nat) (k : String)
    (h : k ∉ a.keysFrom q) : a.step q k = none := by
  unfold KAuto.step
  simp only [Option.map_eq_none_iff, List.find?_eq_none]
  intro t ht hc
  apply h
  simp only [Bool.and_eq_true, beq_iff_eq] at hc
  simp only [KAuto.keysFrom, List.mem_map, List.mem_filter, beq_iff_eq]
  exact ⟨t, ⟨ht, hc.1⟩, hc.2⟩

theorem step_some_mem_trans (a : KAuto) (q : Nat) (k : String) (q' : Nat)
    (h : a.step q k = some q') : (q, k, q') ∈ a.trans := by
  unfold KAuto.step at h
  simp only [Option.map_eq_some_iff] at h
  obtain ⟨t, ht, rfl⟩ := h
  have hm := List.mem_of_find?_eq_some ht
  have hp := List.find?_some ht
  simp only [Bool.and_eq_true, beq_iff_eq] at hp
  obtain ⟨t1, t2, t3⟩ := t
  simp only at hp
  obtain ⟨rfl, rfl⟩ := hp
  exact hm

theorem not_mem_trans_of_step_none (a : KAuto) (q : Nat) (k : String) (h : a.step q k = none)
    (q' : Nat) : (q, k, q') ∉ a.trans := by
  unfold KAuto.step at h
  rw [Option.map_eq_none_iff, List.find?_eq_none] at h
  intro hm
  exact h _ hm (by simp)

theorem runFrom_nil (a : KAuto) (q : Nat) : a.runFrom q [] = some q := rfl

theorem runFrom_cons (a : KAuto) (q : Nat) (k : String) (w : List String) :
    a.runFrom q (k :: w) = (a.step q k).bind (a.runFrom · w) := by
  rw [KAuto.runFrom]
  cases a.step q k <;> rfl

theorem runFrom_append (a : KAuto) (q : Nat) (u v : List String) :
    a.runFrom q (u ++ v) = (a.runFrom q u).bind (a.runFrom · v) := by
  induction u generalizing q with
  | nil => simp [runFrom_nil]
  | cons k u ih =>
    rw [List.cons_append, runFrom_cons, runFrom_cons]
    cases a.step q k with
    | none => rfl
    | some q' => simpa using ih q'

theorem acceptsFrom_nil (a : KAuto) (q : Nat) : a.acceptsFrom q [] = a.acc.contains q := rfl

theorem acceptsFrom_cons (a : KAuto) (q : Nat) (k : String) (w : List String) :
    a.acceptsFrom q (k :: w) =
      match a.step q k with
      | some q' => a.acceptsFrom q' w
      | none => false := by
  unfold KAuto.acceptsFrom
  rw [runFrom_cons]
  cases a.step q k <;> rfl

theorem acceptsFrom_append (a : KAuto) (q : Nat) (u v : List String) :
    a.acceptsFrom q (u ++ v) =
      match a.runFrom q u with
      | some q' => a.acceptsFrom q' v
      | none => false := by
  unfold KAuto.acceptsFrom
  rw [runFrom_append]
  cases a.runFrom q u <;> rfl

theorem mem_states (a : KAuto) (s : Nat) :
    s ∈ a.states ↔ s = a.start ∨ ∃ t ∈ a.trans, s = t.1 ∨ s = t.2.2 := by
  unfold KAuto.states
  rw [List.mem_eraseDups]
  simp only [List.mem_cons, List.mem_flatMap, List.not_mem_nil, or_false]

theorem start_mem_states (a : KAuto) : a.start ∈ a.states :=
  (mem_states a _).2 (Or.inl rfl)

theorem step_mem_states (a : KAuto) (q : Nat) (k : String) (q' : Nat)
    (h : a.step q k = some q') : q' ∈ a.states :=
  (mem_states a _).2 (Or.inr ⟨_, step_some_mem_trans a q k q' h, Or.inr rfl⟩)

theorem runFrom_mem_states (a : KAuto) (q : Nat) (w : List String) (q' : Nat)
    (hq : q ∈ a.states) (h : a.runFrom q w = some q') : q' ∈ a.states := by
  induction w generalizing q with
  | nil =>
    rw [runFrom_nil] at h
    cases h
    exact hq
  | cons k w ih =>
    rw [runFrom_cons] at h
    cases hs : a.step q k with
    | none => rw [hs] at h; cases h
    | some q1 =>
      rw [hs] at h
      exact ih q1 (step_mem_states a q k q1 hs) h

theorem nodup_states (a : KAuto) : a.states.Nodup :=
  nodup_eraseDups _

theorem bisim_inv (a b : KAuto) (R : List (Nat × Nat)) (h : bisimCheck a b R = true)
    (p q : Nat) (hpq : (p, q) ∈ R) :
    a.acc.contains p = b.acc.contains q ∧
    ∀ k, match a.step p k, b.step q k with
      | some p', some q' => (p', q') ∈ R
      | none, none => True
      | _, _ => False := by
  unfold bisimCheck at h
  rw [Bool.and_eq_true, List.all_eq_true] at h
  have h2 := h.2 (p, q) hpq
  simp only [Bool.and_eq_true, beq_iff_eq, List.all_eq_true] at h2
  refine ⟨h2.1, ?_⟩
  intro k
  by_cases hk : k ∈ a.keysFrom p ++ b.keysFrom q
  · have h3 := h2.2 k hk
    revert h3
    cases a.step p k <;> cases b.step q k <;> simp
  · rw [List.mem_append, not_or] at hk
    rw [step_eq_none_of_not_mem_keysFrom a p k hk.1, step_eq_none_of_not_mem_keysFrom b q k hk.2]
    trivial

theorem bisim_acceptsFrom (a b : KAuto) (R : List (Nat × Nat)) (h : bisimCheck a b R = true)
    (w : List String) : ∀ p q, (p, q) ∈ R → a.acceptsFrom p w = b.acceptsFrom q w := by
  induction w with
  | nil =>
    intro p q hpq
    rw [acceptsFrom_nil, acceptsFrom_nil]
    exact (bisim_inv a b R h p q hpq).1
  | cons k w ih =>
    intro p q hpq
    rw [acceptsFrom_cons, acceptsFrom_cons]
    have h3 := (bisim_inv a b R h p q hpq).2 k
    revert h3
    cases a.step p k with
    | none =>
      cases b.step q k with
      | none => intro _; rfl
      | some q' => intro h3; exact h3.elim
    | some p' =>
      cases b.step q k with
      | none => intro h3; exact h3.elim
      | some q' => intro h3; exact ih p' q' h3

theorem bisim_sound (a b : KAuto) (R : List (Nat × Nat)) (h : bisimCheck a b R = true) :
    ∀ w, a.accepts w = b.accepts w := by
  intro w
  unfold KAuto.accepts
  apply bisim_acceptsFrom a b R h w
  unfold bisimCheck at h
  rw [Bool.and_eq_true] at h
  exact List.contains_iff_mem.1 h.1

theorem access_sound (a : KAuto) (access : List (Nat × List String))
    (h : accessCheck a access = true) :
    ∀ s ∈ a.states, ∃ w, a.runFrom a.start w = some s := by
  intro s hs
  unfold accessCheck at h
  rw [List.all_eq_true] at h
  have h1 := h s hs
  revert h1
  cases access.find? (·.1 == s) with
  | none => intro h1; cases h1
  | some x =>
    obtain ⟨x1, w⟩ := x
    intro h1
    exact ⟨w, by simpa using h1⟩

theorem coaccess_sound (a : KAuto) (co : List (Nat × List String))
    (h : coaccessCheck a co = true) :
    ∀ s ∈ a.states, ∃ w, a.acceptsFrom s w = true := by
  intro s hs
  unfold coaccessCheck at h
  rw [List.all_eq_true] at h
  have h1 := h s hs
  revert h1
  cases co.find? (·.1 == s) with
  | none => intro h1; cases h1
  | some x =>
    obtain ⟨x1, w⟩ := x
    intro h1
    exact ⟨w, h1⟩

theorem distinct_sound (a : KAuto) (dist : List ((Nat × Nat) × List String))
    (h : distinctCheck a dist = true) :
    ∀ p ∈ a.states, ∀ q ∈ a.states, p ≠ q →
      ∃ w, a.acceptsFrom p w ≠ a.acceptsFrom q w := by
  intro p hp q hq hne
  unfold distinctCheck at h
  rw [List.all_eq_true] at h
  have h1 := h p hp
  rw [List.all_eq_true] at h1
  have h2 := h1 q hq
  rw [Bool.or_eq_true] at h2
  rcases h2 with h2 | h2
  · exact absurd (beq_iff_eq.1 h2) hne
  · revert h2
    cases dist.find? (fun d => d.1 == (p, q) || d.1 == (q, p)) with
    | none => intro h2; cases h2
    | some x =>
      obtain ⟨x1, w⟩ := x
      intro h2
      exact ⟨w, by simpa using h2⟩

/-- an automaton that passes the three checks is minimal: no automaton with the same language
has fewer states -/
theorem minimal_card (a : KAuto) (access co : List (Nat × List String))
    (dist : List ((Nat × Nat) × List String))
    (ha : accessCheck a access = true) (hc : coaccessCheck a co = true)
    (hd : distinctCheck a dist = true)
    (b : KAuto) (hL : ∀ w, b.accepts w = a.accepts w) :
    a.states.length ≤ b.states.length :=
  card_le_of_reduced_trim (acceptsFrom_append a a.start) (acceptsFrom_append b b.start)
    (fun u s h => runFrom_mem_states b _ u s (start_mem_states b) h) (nodup_states a)
    (access_sound a access ha) (coaccess_sound a co hc) (distinct_sound a dist hd) hL

end Complgen.Cert
