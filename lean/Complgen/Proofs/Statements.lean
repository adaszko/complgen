/-
C05 (whole grammars), the texts of the smaller fragment: statements and whole `.usage` files as the printers
write them.

`StmtNF`: call statements `name expr;` whose name is a literal of regular characters, definitions
`<NAME> ::= expr;` and `<NAME@SHELL> ::= expr;`, expressions in `NF` of `Proofs/LadderFull.lean`.  A layout
(`GLayout`, `StmtLayout`) gives the blanks and comments at the beginning of the file, after the command name,
around `::=` / `=`, inside the expressions, before `;`, between the statements and at the end of the file; the
last `;` is optional.  The plain printer (`ppGrammar`: one blank, statements separated by line feeds) is one of
the layouts (`ppGrammar_eq`).  What `Parse.parse` makes of these texts: `Proofs/SpansFile.lean`.
-/
import Complgen.Proofs.LadderFullLayout
namespace Complgen.Parse

def _root_.Complgen.Stmt.eraseSpans : Stmt → Stmt
  | .call n _ e => .call n default e.eraseSpans
  | .defn n _ none e => .defn n default none e.eraseSpans
  | .defn n _ (some (sh, _)) e => .defn n default (some (sh, default)) e.eraseSpans

def _root_.Complgen.Stmt.expr : Stmt → Expr
  | .call _ _ e => e
  | .defn _ _ _ e => e

def _root_.Complgen.Stmt.isCall : Stmt → Bool
  | .call _ _ _ => true
  | .defn _ _ _ _ => false

/-- the statements of the fragment: the name of a command is a literal of regular characters that
does not begin with `#` (at the beginning of a statement the parser would read a comment); the name of
a nonterminal contains neither `>` nor `@` (`<A@B>` is the nonterminal `A` specialised for the shell
`B`), the name of a shell no `>`; the expression is in `NF` -/
def StmtNF : Stmt → Prop
  | .call n _ e => n.toList ≠ [] ∧ (∀ c ∈ n.toList, isRegular c = true) ∧ n.toList.head? ≠ some '#' ∧ NF e
  | .defn n _ none e => n.toList ≠ [] ∧ (∀ c ∈ n.toList, c ≠ '>' ∧ c ≠ '@') ∧ NF e
  | .defn n _ (some (sh, _)) e => n.toList ≠ [] ∧ (∀ c ∈ n.toList, c ≠ '>' ∧ c ≠ '@') ∧
      sh.toList ≠ [] ∧ (∀ c ∈ sh.toList, c ≠ '>') ∧ NF e

/-- the layout of a printed statement: `=` instead of `::=`; the strings after the name (of the command
or of the nonterminal), after the sign, inside the expression, before `;` (or before the end of the
file), after `;` -/
structure StmtLayout where
  eq : Bool
  name : List Char
  sign : List Char
  expr : Layout
  semi : List Char
  next : List Char

/-- an admissible layout of the statement `st`: blanks and closed comments everywhere; something that
does not begin with `#` between the name of a command and its expression; no `#` directly after the
expression -/
structure StmtLayout.Adm (L : StmtLayout) (st : Stmt) : Prop where
  name : IsLayout L.name
  nameCall : st.isCall = true → L.name ≠ [] ∧ ∀ r, L.name ≠ '#' :: r
  sign : IsLayout L.sign
  expr : L.expr.Adm
  semi : IsLayoutW L.semi
  next : IsLayout L.next

def signText (b : Bool) : List Char := if b then ['='] else [':', ':', '=']

def endText (semi : Bool) (r : List Char) : List Char := if semi then ';' :: r else []

def ppBodyL (L : StmtLayout) : Stmt → List Char
  | .call n _ e => n.toList ++ L.name ++ ppL L.expr 0 e
  | .defn n _ none e => '<' :: n.toList ++ '>' :: L.name ++ signText L.eq ++ L.sign ++ ppL L.expr 0 e
  | .defn n _ (some (sh, _)) e =>
    '<' :: n.toList ++ '@' :: sh.toList ++ '>' :: L.name ++ signText L.eq ++ L.sign ++ ppL L.expr 0 e

/-- a statement with the layout `L`; `semi = false`: the last statement of a file, without `;` -/
def ppStmtL (L : StmtLayout) (semi : Bool) (st : Stmt) : List Char :=
  ppBodyL L st ++ L.semi ++ endText semi L.next

theorem StmtNF.expr {st : Stmt} (h : StmtNF st) : NF st.expr := by
  cases st with
  | call n sp e => simp only [StmtNF] at h; exact h.2.2.2
  | defn n sp shell e =>
    cases shell with
    | none => simp only [StmtNF] at h; exact h.2.2
    | some p => obtain ⟨sh, y⟩ := p; simp only [StmtNF] at h; exact h.2.2.2.2

theorem NBHead_endText (semi : Bool) (r : List Char) : NBHead (endText semi r) := by
  cases semi
  · exact NBHead_nil
  · exact NBHead_cons _ _ (by decide)

theorem Follows_endText (l : List Char) (hl : IsLayoutW l) (semi : Bool) (r : List Char) :
    Follows (l ++ endText semi r) := by
  cases semi
  · refine Follows_blanks _ (hl.stop (.inl rfl)) (.inl ?_)
    exact afterBlanks_layout_nb l [] hl.1 NBHead_nil
  · exact FCont_layout_close l ';' r hl (by decide) (by decide) (by decide)

theorem NBHead_signText (b : Bool) (r : List Char) : NBHead (signText b ++ r) := by
  cases b <;> exact NBHead_cons _ _ (by decide)

theorem endText_append (semi : Bool) (r rest : List Char) (h : semi = false → rest = []) :
    endText semi r ++ rest = endText semi (r ++ rest) := by
  cases semi
  · simp [endText, h rfl]
  · simp [endText]

def headText (n : String) : Option (String × Span) → List Char
  | none => '<' :: n.toList ++ ['>']
  | some (sh, _) => '<' :: n.toList ++ '@' :: sh.toList ++ ['>']

/-- the layout of a printed file: the string at the beginning of the file, the layout of the `i`-th
statement, whether `;` stands after the last statement -/
structure GLayout where
  lead : List Char
  stmt : Nat → StmtLayout
  semi : Bool

structure GLayout.Adm (G : GLayout) (g : Grammar) : Prop where
  lead : IsLayout G.lead
  stmt : ∀ i st, g[i]? = some st → (G.stmt i).Adm st

/-- the statements one after the other; every statement but the last has its `;`, the last one if `fin` -/
def ppStmtsL (fin : Bool) : (Nat → StmtLayout) → List Stmt → List Char
  | _, [] => []
  | L, st :: sts => ppStmtL (L 0) (fin || !sts.isEmpty) st ++ ppStmtsL fin (fun i => L (i + 1)) sts

def ppGrammarL (G : GLayout) (g : Grammar) : List Char := G.lead ++ ppStmtsL G.semi G.stmt g

def ppStmt : Stmt → List Char
  | .call n _ e => n.toList ++ ' ' :: pp 0 e ++ [';']
  | .defn n _ none e => '<' :: n.toList ++ '>' :: ' ' :: ':' :: ':' :: '=' :: ' ' :: pp 0 e ++ [';']
  | .defn n _ (some (sh, _)) e =>
    '<' :: n.toList ++ '@' :: sh.toList ++ '>' :: ' ' :: ':' :: ':' :: '=' :: ' ' :: pp 0 e ++ [';']

def ppGrammar : Grammar → List Char
  | [] => []
  | st :: sts => ppStmt st ++ (if sts.isEmpty then [] else ['\n']) ++ ppGrammar sts

def plainStmt (nl : Bool) : StmtLayout :=
  ⟨false, [' '], [' '], plainLayout, [], if nl then ['\n'] else []⟩

def plainG (k : Nat) : GLayout := ⟨[], fun i => plainStmt (decide (i + 1 < k)), true⟩

theorem plainStmt_adm (nl : Bool) (st : Stmt) : (plainStmt nl).Adm st where
  name := by show IsLayout [' ']; decide
  nameCall := fun _ => ⟨by simp [plainStmt], fun r e => by cases e⟩
  sign := by show IsLayout [' ']; decide
  expr := plainLayout_adm
  semi := IsLayoutW.nil
  next := by cases nl <;> (simp only [plainStmt]; decide)

theorem plainG_adm (g : Grammar) : (plainG g.length).Adm g :=
  ⟨rfl, fun _ st _ => plainStmt_adm _ st⟩

theorem ppStmtL_plain (nl : Bool) (st : Stmt) :
    ppStmtL (plainStmt nl) true st = ppStmt st ++ (if nl then ['\n'] else []) := by
  cases st with
  | call n sp e => simp [ppStmtL, ppBodyL, ppStmt, plainStmt, endText, pp_eq_ppL]
  | defn n sp shell e =>
    cases shell with
    | none => simp [ppStmtL, ppBodyL, ppStmt, plainStmt, endText, signText, pp_eq_ppL]
    | some p => obtain ⟨sh, x⟩ := p; simp [ppStmtL, ppBodyL, ppStmt, plainStmt, endText, signText, pp_eq_ppL]

theorem ppStmtsL_plain : ∀ (g : List Stmt) (L : Nat → StmtLayout),
    (∀ i, L i = plainStmt (decide (i + 1 < g.length))) → ppStmtsL true L g = ppGrammar g
  | [], _, _ => rfl
  | st :: sts, L, h => by
    have ih := ppStmtsL_plain sts (fun i => L (i + 1)) (fun i => by rw [h (i + 1)]; simp)
    simp only [ppStmtsL, ppGrammar, ih, h 0, Bool.true_or, ppStmtL_plain]
    cases sts <;> simp

theorem ppGrammar_eq (g : Grammar) : ppGrammar g = ppGrammarL (plainG g.length) g := by
  simp only [ppGrammarL, plainG, List.nil_append]
  exact (ppStmtsL_plain g _ (fun _ => rfl)).symm

/-! ### an example: a grammar, a layout, their texts -/

/-- `cmd a <X>;` and `<X> ::= b | [c];` -/
def exGrammar : Grammar :=
  [.call "cmd" default (.seq (.cons (.term "a" none 0 default) (.cons (.nonterm "X" 0 default) .nil)) default),
   .defn "X" default none
     (.alt (.cons (.term "b" none 0 default) (.cons (.opt (.term "c" none 0 default) default) .nil)) default)]

theorem exGrammar_nf : ∀ st ∈ exGrammar, StmtNF st := by
  have e1 : "cmd".toList = ['c', 'm', 'd'] := by rfl
  have e2 : "a".toList = ['a'] := by rfl
  have e3 : "X".toList = ['X'] := by rfl
  have e4 : "b".toList = ['b'] := by rfl
  have e5 : "c".toList = ['c'] := by rfl
  intro st hst
  simp only [exGrammar, List.mem_cons, List.not_mem_nil, or_false] at hst
  rcases hst with rfl | rfl
  · simp only [StmtNF, NF, NFL, ExprL.length, e1, e2, e3]
    decide
  · simp only [StmtNF, NF, NFL, ExprL.length, e3, e4, e5]
    decide

theorem ppGrammar_exGrammar : ppGrammar exGrammar = "cmd a <X>;\n<X> ::= b | [c];".toList := eq_toList_of_ofList_eq rfl

example : ppGrammar exGrammar = "cmd a <X>;\n<X> ::= b | [c];".toList := ppGrammar_exGrammar

/-- a layout of a statement: a tab after the name, `=` for `::=`, a blank before `;`, a comment after it -/
def exStmtLayout : StmtLayout := ⟨true, ['\t'], [], plainLayout, [' '], "\n\n# next\n".toList⟩

theorem exStmtLayout_adm (st : Stmt) : exStmtLayout.Adm st where
  name := by show IsLayout ['\t']; decide
  nameCall := fun _ => by
    show (['\t'] : List Char) ≠ [] ∧ ∀ r, (['\t'] : List Char) ≠ '#' :: r
    exact ⟨by simp, fun r e => by cases e⟩
  sign := IsLayout.nil
  expr := plainLayout_adm
  semi := by
    show IsLayoutW [' ']
    exact ⟨by decide, fun r e => by cases e⟩
  next := by show IsLayout "\n\n# next\n".toList; decide

/-- a layout of the example: a comment at the beginning of the file, `exStmtLayout` for both statements,
no `;` at the end of the file -/
def exLayout : GLayout := ⟨"# example\n".toList, fun _ => exStmtLayout, false⟩

theorem exLayout_adm : exLayout.Adm exGrammar where
  lead := by show IsLayout "# example\n".toList; decide
  stmt := fun _ st _ => exStmtLayout_adm st

theorem ppGrammarL_exLayout : ppGrammarL exLayout exGrammar =
    "# example\ncmd\ta <X> ;\n\n# next\n<X>\t=b | [c] ".toList := eq_toList_of_ofList_eq rfl

example : ppGrammarL exLayout exGrammar =
    "# example\ncmd\ta <X> ;\n\n# next\n<X>\t=b | [c] ".toList := ppGrammarL_exLayout

end Complgen.Parse
