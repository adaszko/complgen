/-
The fuel of `partition` always suffices: Hopcroft's refinement loop terminates and returns a
partition for EVERY work-list schedule, hence `minimize` always returns an automaton.

Counting argument.  Let `N = (allStates a).length`.  The blocks of the partition are non-empty,
pairwise disjoint, pairwise distinct subsets of `allStates a`, so `parts.length ≤ N`.  A split adds
one block to the partition and at most one entry to the work-list; an iteration of the loop first
removes one entry from the work-list.  So `work.length + (N - parts.length)` decreases with every
iteration, and it is at most `N` at the start.
-/
import Complgen.Proofs.Hopcroft
namespace Complgen.Min

structure TInv (a : Auto) (P : List Block) : Prop where
  disj : ∀ B ∈ P, ∀ C ∈ P, ∀ x, x ∈ B → x ∈ C → B = C
  ne : ∀ B ∈ P, B ≠ []
  sub : ∀ B ∈ P, ∀ x ∈ B, x ∈ allStates a
  nodup : P.Nodup

/-- pigeonhole: the heads of the blocks are distinct states -/
theorem TInv.heads_nodup {a : Auto} : ∀ {P : List Block}, TInv a P → (P.map (·.headD 0)).Nodup
  | [], _ => by simp
  | B :: P, h => by
    rw [List.map_cons, List.nodup_cons]
    have hn := List.nodup_cons.1 h.nodup
    constructor
    · intro hm
      obtain ⟨C, hC, hCB⟩ := List.mem_map.1 hm
      have hBne := h.ne B (List.mem_cons_self ..)
      have hCne := h.ne C (List.mem_cons_of_mem _ hC)
      have hB : B.headD 0 ∈ B := by
        cases B with
        | nil => exact absurd rfl hBne
        | cons b bs => simp
      have hC' : C.headD 0 ∈ C := by
        cases C with
        | nil => exact absurd rfl hCne
        | cons c cs => simp
      rw [hCB] at hC'
      have := h.disj B (List.mem_cons_self ..) C (List.mem_cons_of_mem _ hC) _ hB hC'
      exact hn.1 (this ▸ hC)
    · apply TInv.heads_nodup (P := P)
      exact ⟨fun X hX Y hY => h.disj X (List.mem_cons_of_mem _ hX) Y (List.mem_cons_of_mem _ hY),
        fun X hX => h.ne X (List.mem_cons_of_mem _ hX),
        fun X hX => h.sub X (List.mem_cons_of_mem _ hX), hn.2⟩

theorem TInv.length_le {a : Auto} {P : List Block} (h : TInv a P) :
    P.length ≤ (allStates a).length := by
  have := List.Nodup.length_le_of_subset h.heads_nodup (l₂ := allStates a) (by
    intro x hx
    obtain ⟨B, hB, rfl⟩ := List.mem_map.1 hx
    have hBne := h.ne B hB
    apply h.sub B hB
    cases B with
    | nil => exact absurd rfl hBne
    | cons b bs => simp)
  simpa using this

theorem length_filter_ne (y : Block) (l : List Block) :
    (l.filter (· != y)).length + l.count y = l.length := by
  induction l with
  | nil => rfl
  | cons z l ih =>
    by_cases hz : z = y
    · subst hz
      simp only [List.filter_cons, bne_self_eq_false, Bool.false_eq_true, if_false,
        List.count_cons_self, List.length_cons]
      omega
    · have hz' : (z != y) = true := by simpa using hz
      simp only [List.filter_cons, hz', if_true, List.length_cons, List.count_cons_of_ne hz]
      omega

theorem splitWork_length (W : List Block) (y y1 y2 : Block) :
    (splitWork W y y1 y2).length ≤ W.length + 1 := by
  unfold splitWork
  split
  · rename_i hc
    have := length_filter_ne y W
    have := List.count_pos_iff.2 (List.contains_iff_mem.1 hc)
    simp only [List.length_append, List.length_cons, List.length_nil]
    omega
  · split <;> simp

theorem splitParts_length {P : List Block} {y : Block} (y1 y2 : Block) (hn : P.Nodup)
    (hy : y ∈ P) : (splitParts P y y1 y2).length = P.length + 1 := by
  unfold splitParts
  have := length_filter_ne y P
  have hc := hn.count (a := y)
  rw [if_pos hy] at hc
  simp only [List.length_append, List.length_cons, List.length_nil]
  omega

theorem split_TInv {a : Auto} {P : List Block} {y y1 y2 : Block} (hc : IsCut y y1 y2)
    (h : TInv a P) (hy : y ∈ P) (h1 : y1 ≠ []) (h2 : y2 ≠ []) :
    TInv a (splitParts P y y1 y2) := by
  have hold : ∀ B ∈ P, ∀ u, u ∈ B → u ∈ y → B = y := fun B hB u hu hu' => h.disj B hB y hy u hu hu'
  obtain ⟨u1, hu1⟩ := List.exists_mem_of_ne_nil _ h1
  obtain ⟨u2, hu2⟩ := List.exists_mem_of_ne_nil _ h2
  refine ⟨split_disj hc h.disj hy, ?_, ?_, ?_⟩
  · intro B hB
    rcases mem_splitParts.1 hB with ⟨hBP, _⟩ | rfl | rfl
    · exact h.ne B hBP
    · exact h1
    · exact h2
  · intro B hB u hu
    rcases mem_splitParts.1 hB with ⟨hBP, _⟩ | rfl | rfl
    · exact h.sub B hBP u hu
    · exact h.sub y hy u (hc.sub1 u hu)
    · exact h.sub y hy u (hc.sub2 u hu)
  · unfold splitParts
    rw [List.nodup_append]
    refine ⟨h.nodup.filter _, ?_, ?_⟩
    · rw [List.nodup_cons]
      refine ⟨?_, by simp⟩
      intro hm
      have : y1 = y2 := by simpa using hm
      exact hc.disj u1 hu1 (this ▸ hu1)
    · intro B hB C hC hBC
      subst hBC
      have hB' := List.mem_filter.1 hB
      have hBy : B ≠ y := by simpa using hB'.2
      rcases List.mem_cons.1 hC with rfl | hC
      · exact hBy (hold _ hB'.1 u1 hu1 (hc.sub1 u1 hu1))
      · have : B = y2 := by simpa using hC
        subst this
        exact hBy (hold _ hB'.1 u2 hu2 (hc.sub2 u2 hu2))

def Grows (a : Auto) (st st' : HState) : Prop :=
  TInv a st'.parts ∧ st'.work.length + st.parts.length ≤ st.work.length + st'.parts.length

theorem Grows.refl {a : Auto} {st : HState} (h : TInv a st.parts) : Grows a st st :=
  ⟨h, Nat.le_refl _⟩

theorem Grows.trans {a : Auto} {s1 s2 s3 : HState} (h12 : Grows a s1 s2) (h23 : Grows a s2 s3) :
    Grows a s1 s3 := by
  refine ⟨h23.1, ?_⟩
  have := h12.2
  have := h23.2
  omega

theorem cut_grows {a : Auto} {st : HState} {y x : Block} (h : TInv a st.parts) (hy : y ∈ st.parts)
    (h1 : inter y x ≠ []) (h2 : diff y (inter y x) ≠ []) : Grows a st (cut x st y) := by
  refine ⟨split_TInv (isCut_inter y x) h hy h1 h2, ?_⟩
  have h1 := splitParts_length (inter y x) (diff y (inter y x)) h.nodup hy
  have h2 := splitWork_length st.work y (inter y x) (diff y (inter y x))
  simp only [cut]
  omega

theorem round_grows {a : Auto} {froms : Block} {n : Nat} {st : HState} (k : Nat) (g : Block)
    (h : TInv a st.parts) :
    Grows a { st with work := removeNth st.work k } (round a froms n st k g) :=
  foldl_induct (Q := fun _ => Grows a { st with work := removeNth st.work k })
    (fun _ _ _ h => foldBody_preserves
      (fun _ _ h hy h1 h2 => h.trans (cut_grows h.1 hy h1 h2)) _ h)
    _ _ (Grows.refl h)

theorem refineLoop_isSome {σ : Schedule} {a : Auto} {froms : Block} {n : Nat}
    (fuel step : Nat) (st : HState) (h : TInv a st.parts)
    (hf : st.work.length + (allStates a).length ≤ fuel + st.parts.length) :
    (refineLoop σ a froms n fuel step st).isSome = true := by
  refine refineLoop_induct (σ := σ) (a := a) (froms := froms) (n := n)
    (motive := fun fuel st r => TInv a st.parts →
      st.work.length + (allStates a).length ≤ fuel + st.parts.length → r.isSome = true)
    ?_ ?_ ?_ fuel step st h hf
  · intro _ _ _ _ _
    rfl
  · intro st hw h hf
    have := h.length_le
    exact absurd (List.eq_nil_of_length_eq_zero (by omega)) hw
  · intro fuel st k g r hk _ ih h hf
    have hg := round_grows (froms := froms) (n := n) k g h
    apply ih hg.1
    have h1 := hg.2
    have h2 := length_removeNth hk
    have h3 := hg.1.length_le
    simp only at h1
    omega

theorem initBlock_inj {a : Auto} (hwf : WF a) {j k : Nat} (hj : j ≤ 2) (hk : k ≤ 2)
    (hne : initBlock a j ≠ []) (e : initBlock a j = initBlock a k) : j = k := by
  obtain ⟨u, hu⟩ := List.exists_mem_of_ne_nil _ hne
  exact ((mem_initBlock hwf hj).1 hu).2.symm.trans ((mem_initBlock hwf hk).1 (e ▸ hu)).2

theorem initParts_TInv {a : Auto} (hwf : WF a) : TInv a (initParts a) := by
  refine ⟨(initParts_PInv hwf).disj, fun B hB => (mem_initParts.1 hB).1,
    fun B hB x hx => initParts_sub hwf hB hx, ?_⟩
  have hpw : List.Pairwise (fun B C : Block => B ≠ [] → C ≠ [] → B ≠ C)
      ([0, 1, 2].map (initBlock a)) := by
    rw [List.pairwise_map]
    refine List.Pairwise.imp_of_mem ?_ (show [0, 1, 2].Pairwise (· ≠ ·) by decide)
    intro j k hj hk hjk hne _ e
    simp only [List.mem_cons, List.not_mem_nil, or_false] at hj hk
    exact hjk (initBlock_inj hwf (by omega) (by omega) hne e)
  refine (hpw.filter _).imp_of_mem ?_
  intro B C hB hC hBC
  have hB := (List.mem_filter.1 hB).2
  have hC := (List.mem_filter.1 hC).2
  exact hBC (by simpa using hB) (by simpa using hC)

/-- the fuel `2 * n * n + 2` of `partition` always suffices: for every work-list schedule the
refinement loop ends with an empty work-list -/
theorem partition_isSome (σ : Schedule) (a : Auto) (hwf : WF a) :
    (partition σ a).isSome = true := by
  unfold partition
  simp only [Option.isSome_map]
  have hT : TInv a (initParts a) := initParts_TInv hwf
  apply refineLoop_isSome (st := { parts := initParts a, work := initParts a }) _ _ hT
  have : (allStates a).length ≤ (allStates a).length * (allStates a).length := by
    cases (allStates a).length with
    | zero => exact Nat.le_refl _
    | succ m => exact Nat.le_mul_of_pos_left _ (Nat.succ_pos m)
  have h2 : 2 * (allStates a).length * (allStates a).length
      = 2 * ((allStates a).length * (allStates a).length) := Nat.mul_assoc ..
  simp only
  omega

theorem minimize_isSome (σ : Schedule) (a : Auto) (hwf : WF a) :
    (minimize σ a).isSome = true := by
  rw [minimize_eq, Option.isSome_map]
  exact partition_isSome σ a hwf

end Complgen.Min
