/-
C15: the bookkeeping of the model of check.rs ends with exactly the warnings of the specification, for every
grammar the model accepts: its `unused` map holds the plain definitions whose name occurs in no statement
(`Spec.unusedNames`, `validate_unused_eq`), its `unusedSpecs` the definitions for the target shell whose name
occurs in none (`Spec.unusedSpecNames`, `validate_unusedSpecs_eq`).  Every pass erases from the one and marks in
the other the names of the expression it walks (`dropKeys`, `markUsed`), so the end is read off the names.
-/
import Complgen.Proofs.Passes
import Complgen.Proofs.Choice
import Complgen.Spec.Warn
namespace Complgen.Check

def dropKeys (R : List String) (u : AList Span) : AList Span := u.filter fun p => !R.contains p.1

theorem erase_eq_dropKeys (u : AList Span) (n : String) : u.erase n = dropKeys [n] u := by
  unfold AList.erase dropKeys
  apply List.filter_congr
  intro p _
  by_cases h : p.1 = n
  · simp [h]
  · have : (p.1 != n) = true := by simpa using h
    simp [this, h]

theorem dropKeys_dropKeys (A B : List String) (u : AList Span) :
    dropKeys B (dropKeys A u) = dropKeys (A ++ B) u := by
  unfold dropKeys
  rw [List.filter_filter]
  apply List.filter_congr
  intro p _
  simp [Bool.not_or, Bool.and_comm]

theorem dropKeys_nil (u : AList Span) : dropKeys [] u = u := by
  unfold dropKeys; simp

theorem dropKeys_congr (A B : List String) (u : AList Span) (h : ∀ x, x ∈ A ↔ x ∈ B) :
    dropKeys A u = dropKeys B u := by
  unfold dropKeys
  apply List.filter_congr
  intro p _
  rw [Bool.eq_iff_iff.mpr (by simpa using h p.1 : A.contains p.1 = true ↔ B.contains p.1 = true)]

theorem dropKeys_disjoint (R : List String) (u : AList Span) (h : ∀ p ∈ u, p.1 ∉ R) : dropKeys R u = u := by
  unfold dropKeys
  apply List.filter_eq_self.mpr
  intro p hp
  have := h p hp
  simpa using this

theorem mem_keys_dropKeys (R : List String) (u : AList Span) (n : String) :
    n ∈ (dropKeys R u).map (·.1) ↔ n ∈ u.map (·.1) ∧ n ∉ R := by
  unfold dropKeys
  simp only [List.mem_map, List.mem_filter, Bool.not_eq_eq_eq_not, Bool.not_true, List.contains_eq_mem,
    decide_eq_false_iff_not]
  constructor
  · rintro ⟨p, ⟨hp, hr⟩, rfl⟩; exact ⟨⟨p, hp, rfl⟩, hr⟩
  · rintro ⟨⟨p, hp, rfl⟩, hr⟩; exact ⟨p, ⟨hp, hr⟩, rfl⟩

def markUsed (R : List String) (m : AList UserSpec) : AList UserSpec :=
  m.map fun p => if R.contains p.1 then (p.1, { p.2 with used := true }) else p

theorem markUsed_nil (m : AList UserSpec) : markUsed [] m = m := by
  unfold markUsed; simp

theorem markUsed_markUsed (A B : List String) (m : AList UserSpec) :
    markUsed B (markUsed A m) = markUsed (A ++ B) m := by
  unfold markUsed
  rw [List.map_map]
  apply List.map_congr_left
  intro p _
  simp only [Function.comp_def]
  by_cases ha : p.1 ∈ A <;> by_cases hb : p.1 ∈ B <;> simp [ha, hb]

theorem markUsed_congr (A B : List String) (m : AList UserSpec) (h : ∀ x, x ∈ A ↔ x ∈ B) :
    markUsed A m = markUsed B m := by
  unfold markUsed
  apply List.map_congr_left
  intro p _
  rw [Bool.eq_iff_iff.mpr (by simpa using h p.1 : A.contains p.1 = true ↔ B.contains p.1 = true)]

theorem markUsed_absent (n : String) (m : AList UserSpec) (h : m.get? n = none) : markUsed [n] m = m := by
  unfold markUsed
  have hk : ∀ p ∈ m, p.1 ≠ n := fun p hp e => (get?_none_iff m n).mp h (List.mem_map.mpr ⟨p, hp, e⟩)
  conv => rhs; rw [← List.map_id m]
  apply List.map_congr_left
  intro p hp
  have := hk p hp
  simp [this]

theorem markUsed_single (n : String) (m : AList UserSpec) :
    (m.map fun p => if p.1 == n then (p.1, { p.2 with used := true }) else p) = markUsed [n] m := by
  unfold markUsed
  apply List.map_congr_left
  intro p _
  simp

mutual
theorem specialize_book (sh : Shell) (fbs : AList String) (defined : List String) :
    ∀ (e : Expr) (b : Book), NoDD e = true →
      (specialize sh fbs defined e b).2 = ⟨markUsed (Spec.names e) b.specs, dropKeys (Spec.names e) b.unused⟩
  | .term .. | .cmd .. => fun b _ => by simp only [specialize, Spec.names, markUsed_nil, dropKeys_nil]
  | .dd .. => fun _ h => nomatch h
  | .nonterm n l s => fun b _ => by
    rw [specialize_nonterm_snd, Spec.names, ← erase_eq_dropKeys]
    cases hsp : b.specs.get? n with
    | some sp => simp only [markUsed_single]
    | none => simp only [markUsed_absent n b.specs hsp]
  | .sub c _ _ | .opt c _ | .many1 c _ => specialize_book sh fbs defined c
  | .seq cs _ | .alt cs _ | .fb cs _ => specializeL_book sh fbs defined cs
theorem specializeL_book (sh : Shell) (fbs : AList String) (defined : List String) :
    ∀ (es : ExprL) (b : Book), NoDDL es = true →
      (specializeL sh fbs defined es b).2 = ⟨markUsed (Spec.namesL es) b.specs, dropKeys (Spec.namesL es) b.unused⟩
  | .nil => fun b _ => by simp only [specializeL, Spec.namesL, markUsed_nil, dropKeys_nil]
  | .cons e es => fun b h => by
    have h1 := specialize_book sh fbs defined e b (noDDL_cons.mp h).1
    have h2 := specializeL_book sh fbs defined es (specialize sh fbs defined e b).2 (noDDL_cons.mp h).2
    simp only [specializeL, Spec.namesL]
    rw [h2, h1, markUsed_markUsed, dropKeys_dropKeys]
end

theorem specializeL_unused (sh : Shell) (fbs : AList String) (defined : List String) :
    ∀ (es : ExprL) (b : Book), NoDDL es = true →
      (specializeL sh fbs defined es b).2.unused = dropKeys (Spec.namesL es) b.unused :=
  fun es b h => congrArg Book.unused (specializeL_book sh fbs defined es b h)

theorem specializeL_specs (sh : Shell) (fbs : AList String) (defined : List String) :
    ∀ (es : ExprL) (b : Book), NoDDL es = true →
      (specializeL sh fbs defined es b).2.specs = markUsed (Spec.namesL es) b.specs :=
  fun es b h => congrArg Book.specs (specializeL_book sh fbs defined es b h)

mutual
theorem distr_names : ∀ (e : Expr) (p : Option String), Spec.names (distr e p).1 = Spec.names e
  | .term _ d _ _ => fun p => by cases d <;> cases p <;> rfl
  | .nonterm .. | .cmd .. => fun _ => rfl
  | .dd c d _ => fun _ => distr_names c (some d)
  | .opt c _ | .many1 c _ | .sub c _ _ => distr_names c
  | .seq cs _ | .fb cs _ => distrSeq_names cs
  | .alt cs _ => distrAlt_names cs
theorem distrSeq_names : ∀ (es : ExprL) (p : Option String), Spec.namesL (distrSeq es p).1 = Spec.namesL es
  | .nil => fun _ => rfl
  | .cons e es => fun p => by
    simp only [distrSeq, Spec.namesL, distr_names e p, distrSeq_names es (distr e p).2]
theorem distrAlt_names : ∀ (es : ExprL) (p : Option String), Spec.namesL (distrAlt es p).1 = Spec.namesL es
  | .nil => fun _ => rfl
  | .cons e es => fun p => by simp only [distrAlt, Spec.namesL, distr_names e p, distrAlt_names es p]
end

theorem distribute_names (e : Expr) : Spec.names (distribute e) = Spec.names e := distr_names e none

mutual
theorem specialize_names_sub (sh : Shell) (fbs : AList String) (defined : List String) :
    ∀ (e : Expr) (b : Book) (x : String), x ∈ Spec.names (specialize sh fbs defined e b).1 → x ∈ Spec.names e
  | .term .. | .cmd .. | .dd .. => fun _ _ h => h
  | .nonterm n l s => fun b x h => by
    unfold specialize at h
    simp only at h
    split at h
    · exact h
    · nomatch h
  | .sub c _ _ | .opt c _ | .many1 c _ => specialize_names_sub sh fbs defined c
  | .seq cs _ | .alt cs _ | .fb cs _ => specializeL_names_sub sh fbs defined cs
theorem specializeL_names_sub (sh : Shell) (fbs : AList String) (defined : List String) :
    ∀ (es : ExprL) (b : Book) (x : String), x ∈ Spec.namesL (specializeL sh fbs defined es b).1 → x ∈ Spec.namesL es
  | .nil => fun _ _ h => h
  | .cons e es => fun b x h =>
    List.mem_append.mpr <| (List.mem_append.mp h).imp
      (specialize_names_sub sh fbs defined e b x) (specializeL_names_sub sh fbs defined es _ x)
end

/-! ### `resolve` erases only names of the expression and brings in only names of bodies -/

def bodyNames (defs : AList (Span × Expr)) : List String := defs.flatMap fun d => Spec.names d.2.2

mutual
theorem resolve_unused_id (defs : AList (Span × Expr)) :
    ∀ (e : Expr) (u : AList Span), (∀ p ∈ u, p.1 ∉ Spec.names e) → (resolve defs e u).2 = u
  | .term .. | .cmd .. | .dd .. => fun _ _ => rfl
  | .nonterm n l s => fun u h => by
    unfold resolve
    split
    · simp only
      rw [erase_eq_dropKeys]
      exact dropKeys_disjoint [n] u (by intro p hp; simpa [Spec.names] using h p hp)
    · rfl
  | .sub c _ _ | .opt c _ | .many1 c _ => resolve_unused_id defs c
  | .seq cs _ | .alt cs _ | .fb cs _ => resolveL_unused_id defs cs
theorem resolveL_unused_id (defs : AList (Span × Expr)) :
    ∀ (es : ExprL) (u : AList Span), (∀ p ∈ u, p.1 ∉ Spec.namesL es) → (resolveL defs es u).2 = u
  | .nil => fun _ _ => rfl
  | .cons e es => fun u h => by
    show (resolveL defs es (resolve defs e u).2).2 = u
    rw [resolve_unused_id defs e u fun p hp hx => h p hp (List.mem_append_left _ hx)]
    exact resolveL_unused_id defs es u fun p hp hx => h p hp (List.mem_append_right _ hx)
end

mutual
theorem resolve_names_sub (defs : AList (Span × Expr)) :
    ∀ (e : Expr) (u : AList Span) (x : String), x ∈ Spec.names (resolve defs e u).1 →
      x ∈ Spec.names e ∨ x ∈ bodyNames defs
  | .term .. | .cmd .. => fun _ _ h => nomatch h
  | .dd .. => fun _ _ h => .inl h
  | .nonterm n l s => fun u x h => by
    unfold resolve at h
    split at h
    · rename_i sp rhs hg
      exact .inr (List.mem_flatMap.mpr ⟨(n, sp, rhs), mem_of_get?_some defs n (sp, rhs) hg, h⟩)
    · exact .inl h
  | .sub c _ _ | .opt c _ | .many1 c _ => resolve_names_sub defs c
  | .seq cs _ | .alt cs _ | .fb cs _ => resolveL_names_sub defs cs
theorem resolveL_names_sub (defs : AList (Span × Expr)) :
    ∀ (es : ExprL) (u : AList Span) (x : String), x ∈ Spec.namesL (resolveL defs es u).1 →
      x ∈ Spec.namesL es ∨ x ∈ bodyNames defs
  | .nil => fun _ _ h => nomatch h
  | .cons e es => fun u x h =>
    match List.mem_append.mp h with
    | .inl h => (resolve_names_sub defs e u x h).imp_left (List.mem_append_left _)
    | .inr h => (resolveL_names_sub defs es _ x h).imp_left (List.mem_append_right _)
end

theorem specFold_spec (sh : Shell) (fbs : AList String) (defined : List String) :
    ∀ (l : List (String × Span × Expr)) (acc : AList (Span × Expr) × Book),
    (∀ x ∈ l, NoDD x.2.2 = true) →
    (l.foldl (specStep sh fbs defined) acc).2 =
      ⟨markUsed (l.flatMap fun x => Spec.names x.2.2) acc.2.specs,
       dropKeys (l.flatMap fun x => Spec.names x.2.2) acc.2.unused⟩ ∧
    (∀ y ∈ bodyNames (l.foldl (specStep sh fbs defined) acc).1,
        y ∈ bodyNames acc.1 ∨ y ∈ l.flatMap fun x => Spec.names x.2.2)
  | [], acc, _ => by simp [markUsed_nil, dropKeys_nil]
  | x :: rest, acc, h => by
    have hx := h x List.mem_cons_self
    have ih := specFold_spec sh fbs defined rest (specStep sh fbs defined acc x)
      (fun y hy => h y (List.mem_cons_of_mem _ hy))
    simp only [List.foldl_cons]
    refine ⟨?_, ?_⟩
    · rw [ih.1]
      simp only [specStep, List.flatMap_cons]
      rw [specialize_book sh fbs defined x.2.2 acc.2 hx, markUsed_markUsed, dropKeys_dropKeys]
    · intro y hy
      rcases ih.2 y hy with h1 | h1
      · simp only [specStep, bodyNames, List.flatMap_append, List.mem_append, List.flatMap_cons,
          List.flatMap_nil, List.append_nil] at h1
        rcases h1 with h1 | h1
        · exact .inl h1
        · right
          simp only [List.flatMap_cons, List.mem_append]
          exact .inl (specialize_names_sub sh fbs defined x.2.2 acc.2 y h1)
      · right
        simp only [List.flatMap_cons, List.mem_append]
        exact .inr h1

def ResInv (R : List String) (acc : AList (Span × Expr) × AList Span) : Prop :=
  (∀ y ∈ bodyNames acc.1, y ∈ R) ∧ (∀ p ∈ acc.2, p.1 ∉ R)

theorem resStep_inv (R : List String) (acc : AList (Span × Expr) × AList Span) (n : String)
    (h : ResInv R acc) : (resStep acc n).2 = acc.2 ∧ ResInv R (resStep acc n) := by
  unfold resStep
  cases hg : AList.get? acc.1 n with
  | none => exact ⟨rfl, h⟩
  | some v =>
    obtain ⟨s, e⟩ := v
    have hmem := mem_of_get?_some acc.1 n (s, e) hg
    have hne : ∀ y ∈ Spec.names e, y ∈ R := fun y hy =>
      h.1 y (List.mem_flatMap.mpr ⟨(n, s, e), hmem, hy⟩)
    have hu : (resolve acc.1 e acc.2).2 = acc.2 :=
      resolve_unused_id acc.1 e acc.2 (fun p hp hx => h.2 p hp (hne p.1 hx))
    simp only
    refine ⟨hu, ?_, ?_⟩
    · intro y hy
      simp only [bodyNames, List.mem_flatMap, List.mem_map] at hy
      obtain ⟨d, ⟨p, hp, rfl⟩, hyd⟩ := hy
      by_cases hpn : p.1 == n
      · simp only [hpn, if_true] at hyd
        rcases resolve_names_sub acc.1 e acc.2 y hyd with h1 | h1
        · exact hne y h1
        · exact h.1 y h1
      · simp only [hpn] at hyd
        exact h.1 y (List.mem_flatMap.mpr ⟨p, hp, hyd⟩)
    · rw [hu]; exact h.2

theorem resFold_inv (R : List String) :
    ∀ (order : List String) (acc : AList (Span × Expr) × AList Span), ResInv R acc →
      (order.foldl resStep acc).2 = acc.2 ∧ ResInv R (order.foldl resStep acc)
  | [], acc, h => ⟨rfl, h⟩
  | n :: rest, acc, h => by
    have h1 := resStep_inv R acc n h
    have h2 := resFold_inv R rest (resStep acc n) h1.2
    simp only [List.foldl_cons]
    exact ⟨by rw [h2.1, h1.1], h2.2⟩

/-- **The warnings `finishValidate` ends with**: the definitions, resp. specialisations, it started with, minus
every name that occurs in a definition body or in the call variants. -/
theorem finishValidate_warnings (g : Grammar) (sh : Shell) (command : String) (defs0 : AList (Span × Expr))
    (specs : AList UserSpec) (fbs : AList String) (v : Valid)
    (h : finishValidate g sh command defs0 specs fbs = .ok v) :
    v.unused = dropKeys ((defs0.flatMap fun x => Spec.names x.2.2) ++ Spec.names (topExpr g))
      (defs0.map fun x => (x.1, x.2.1)) ∧
    v.unusedSpecs =
      (markUsed ((defs0.flatMap fun x => Spec.names x.2.2) ++ Spec.names (topExpr g)) specs).filterMap
        fun p => if p.2.used then none else some (p.1, p.2.span) := by
  obtain ⟨defsD, r1, r2, order, r3, hD, hr1, hr2, hro, hr3, _, rfl⟩ :=
    finishValidate_ok g sh command defs0 specs fbs v h
  have hnodd : ∀ x ∈ defsD, NoDD x.2.2 = true := by
    intro x hx; rw [← hD] at hx
    obtain ⟨y, _, rfl⟩ := List.mem_map.mp hx
    exact distribute_noDD _
  have hnames : (defsD.flatMap fun x => Spec.names x.2.2) = defs0.flatMap fun x => Spec.names x.2.2 := by
    rw [← hD, List.flatMap_map]
    simp [distribute_names]
  have hkeys : (defsD.map fun x => (x.1, x.2.1)) = defs0.map fun x => (x.1, x.2.1) := by
    rw [← hD, List.map_map]; rfl
  have hf1 := specFold_spec sh fbs (defsD.map (·.1)) defsD ([], ⟨specs, defsD.map fun x => (x.1, x.2.1)⟩) hnodd
  rw [hr1] at hf1
  have hu2 := specialize_book sh fbs (defsD.map (·.1)) (distribute (topExpr g)) r1.2 (distribute_noDD _)
  rw [hr2] at hu2
  -- the set of names all later erasures draw from
  let R := (defs0.flatMap fun x => Spec.names x.2.2) ++ Spec.names (topExpr g)
  have hbook2 : r2.2 = ⟨markUsed R specs, dropKeys R (defs0.map fun x => (x.1, x.2.1))⟩ := by
    rw [hu2, hf1.1, markUsed_markUsed, dropKeys_dropKeys, hnames, distribute_names, hkeys]
  have hinv : ResInv R (r1.1, r2.2.unused) := by
    refine ⟨?_, ?_⟩
    · intro y hy
      rcases hf1.2 y hy with h1 | h1
      · simp [bodyNames] at h1
      · rw [hnames] at h1; exact List.mem_append_left _ h1
    · intro p hp
      rw [hbook2] at hp
      have := (List.mem_filter.mp hp).2
      simpa using this
  have hf2 := resFold_inv R order (r1.1, r2.2.unused) hinv
  rw [hr3] at hf2
  -- the last expansion erases nothing either
  have hn2 : ∀ y ∈ Spec.names r2.1, y ∈ R := by
    intro y hy
    rw [← hr2] at hy
    have := specialize_names_sub sh fbs (defsD.map (·.1)) (distribute (topExpr g)) r1.2 y hy
    rw [distribute_names] at this
    exact List.mem_append_right _ this
  simp only
  rw [resolve_unused_id r3.1 r2.1 r3.2 (fun p hp hx => hf2.2.2 p hp (hn2 p.1 hx)), hf2.1, hbook2]
  exact ⟨rfl, rfl⟩

theorem namesL_ofList : ∀ l : List Expr, Spec.namesL (ExprL.ofList l) = l.flatMap Spec.names
  | [] => rfl
  | e :: es => by simp [ExprL.ofList, Spec.namesL, namesL_ofList es]

theorem topExpr_names (g : Grammar) (x : String) :
    x ∈ Spec.names (topExpr g) ↔ ∃ c ∈ callsOf g, x ∈ Spec.names c.2.2 := by
  unfold topExpr
  split
  · rename_i n s e hc
    rw [hc]; simp
  · rename_i hne
    simp only [Spec.names, namesL_ofList, List.mem_flatMap, List.mem_map]
    constructor
    · rintro ⟨e, ⟨c, hc, rfl⟩, hx⟩; exact ⟨c, hc, hx⟩
    · rintro ⟨c, hc, hx⟩; exact ⟨_, ⟨c, hc, rfl⟩, hx⟩

theorem erased_iff_referred (g : Grammar) (hc : ∀ x ∈ specDefs g, isCmdSpec x = true) (x : String) :
    x ∈ (plainDefs g).flatMap (fun d => Spec.names d.2.2) ++ Spec.names (topExpr g) ↔ x ∈ Spec.referred g := by
  unfold Spec.referred
  simp only [List.mem_append, List.mem_flatMap, topExpr_names]
  constructor
  · rintro (⟨⟨n, s, e⟩, hp, hx⟩ | ⟨c, hcm, hx⟩)
    · exact ⟨_, (mem_plainDefs g n s e).mp hp, hx⟩
    · obtain ⟨n, s, e⟩ := c
      exact ⟨_, (mem_callsOf g n s e).mp hcm, hx⟩
  · rintro ⟨st, hst, hx⟩
    cases st with
    | call n s e => exact .inr ⟨(n, s, e), (mem_callsOf g n s e).mpr hst, hx⟩
    | defn n s sh e =>
      cases sh with
      | none => exact .inl ⟨(n, s, e), (mem_plainDefs g n s e).mpr hst, hx⟩
      | some p =>
        obtain ⟨shn, ss⟩ := p
        have := hc _ ((mem_specDefs g n s shn ss e).mpr hst)
        cases e with
        | cmd c a l sp => simp [Spec.Stmt.body, Spec.names] at hx
        | _ => exact Bool.noConfusion this

theorem mem_unusedNames (g : Grammar) (n : String) :
    n ∈ Spec.unusedNames g ↔ (∃ sp e, Stmt.defn n sp none e ∈ g) ∧ n ∉ Spec.referred g := by
  unfold Spec.unusedNames
  rw [List.mem_eraseDups, List.mem_filterMap]
  constructor
  · rintro ⟨st, hst, h⟩
    cases st with
    | call => simp at h
    | defn m sp shell e =>
      cases shell with
      | some s => simp at h
      | none =>
        simp only at h
        split at h
        · cases h
        · rename_i hc
          simp only [Option.some.injEq] at h
          subst h
          exact ⟨⟨sp, e, hst⟩, by simpa using hc⟩
  · rintro ⟨⟨sp, e, hst⟩, hn⟩
    refine ⟨_, hst, ?_⟩
    simp [hn]

theorem mem_unusedSpecNames (sh : Shell) (g : Grammar) (n : String) :
    n ∈ Spec.unusedSpecNames sh g ↔
      (∃ sp ss e, Stmt.defn n sp (some (sh.name, ss)) e ∈ g) ∧ n ∉ Spec.referred g := by
  unfold Spec.unusedSpecNames
  rw [List.mem_eraseDups, List.mem_filterMap]
  constructor
  · rintro ⟨st, hst, h⟩
    cases st with
    | call => simp at h
    | defn m sp shell e =>
      cases shell with
      | none => simp at h
      | some s =>
        obtain ⟨s, ss⟩ := s
        simp only at h
        split at h
        · rename_i hc
          simp only [Option.some.injEq] at h
          subst h
          simp only [Bool.and_eq_true, beq_iff_eq, Bool.not_eq_eq_eq_not, Bool.not_true,
            List.contains_eq_mem, decide_eq_false_iff_not] at hc
          obtain ⟨h1, h2⟩ := hc
          subst h1
          exact ⟨⟨sp, ss, e, hst⟩, h2⟩
        · cases h
  · rintro ⟨⟨sp, ss, e, hst⟩, hn⟩
    refine ⟨_, hst, ?_⟩
    simp [hn]

theorem mem_targetSpecNames (g : Grammar) (sh : Shell) (n : String) :
    n ∈ targetSpecNames g sh ↔ ∃ sp ss e, Stmt.defn n sp (some (sh.name, ss)) e ∈ g := by
  unfold targetSpecNames
  simp only [List.mem_map, List.mem_filter]
  constructor
  · rintro ⟨⟨m, s, shn, ss, e⟩, ⟨hx, hft⟩, rfl⟩
    have hs : shn = sh.name := (ofName_iff _ _).mp ((forTarget_iff _ _).mp hft)
    exact ⟨s, ss, e, hs ▸ (mem_specDefs g m s shn ss e).mp hx⟩
  · rintro ⟨s, ss, e, hst⟩
    exact ⟨(n, s, sh.name, ss, e),
      ⟨(mem_specDefs g n s sh.name ss e).mpr hst, (forTarget_iff _ _).mpr ((ofName_iff _ _).mpr rfl)⟩, rfl⟩

/-- **The names the model warns about as unused are exactly `Spec.unusedNames`**: the plain definitions whose
name occurs in no statement — for every grammar and target shell the model accepts. -/
theorem validate_unused_eq (g : Grammar) (sh : Shell) (v : Valid) (h : validate g sh = .ok v) (n : String) :
    n ∈ v.unused.map (·.1) ↔ n ∈ Spec.unusedNames g := by
  obtain ⟨command, specs, fbs, _, _, hgs, h⟩ := validate_ok_inv g sh v h
  obtain ⟨_, hc, _⟩ := getSpecializations_ok_inv g sh specs fbs hgs
  rw [(finishValidate_warnings g sh command _ specs fbs v h).1,
    dropKeys_congr _ (Spec.referred g) _ (erased_iff_referred g hc), mem_keys_dropKeys, mem_unusedNames]
  refine and_congr_left' ?_
  simp only [List.map_map, List.mem_map, Function.comp_def]
  constructor
  · rintro ⟨⟨m, s, e⟩, hd, rfl⟩; exact ⟨s, e, (mem_plainDefs g m s e).mp hd⟩
  · rintro ⟨s, e, hst⟩; exact ⟨(n, s, e), (mem_plainDefs g n s e).mpr hst, rfl⟩

theorem markUsed_mem_unused (R : List String) (m : AList UserSpec) (hm : ∀ p ∈ m, p.2.used = false) (n : String) :
    n ∈ ((markUsed R m).filterMap fun p => if p.2.used then none else some (p.1, p.2.span)).map (·.1) ↔
    n ∈ m.map (·.1) ∧ n ∉ R := by
  unfold markUsed
  simp only [List.mem_map, List.mem_filterMap]
  constructor
  · rintro ⟨q, ⟨p', ⟨p, hp, rfl⟩, hq⟩, rfl⟩
    by_cases hr : p.1 ∈ R
    · simp [hr] at hq
    · simp only [List.contains_eq_mem, hr, decide_false, Bool.false_eq_true, if_false, hm p hp] at hq
      simp only [Option.some.injEq] at hq
      subst hq
      exact ⟨⟨p, hp, rfl⟩, hr⟩
  · rintro ⟨⟨p, hp, rfl⟩, hr⟩
    refine ⟨(p.1, p.2.span), ⟨p, ⟨p, hp, ?_⟩, ?_⟩, rfl⟩
    · simp [hr]
    · simp [hm p hp]

/-- **The specialisations the model warns about as unused are exactly `Spec.unusedSpecNames`.** -/
theorem validate_unusedSpecs_eq (g : Grammar) (sh : Shell) (v : Valid) (h : validate g sh = .ok v) (n : String) :
    n ∈ v.unusedSpecs.map (·.1) ↔ n ∈ Spec.unusedSpecNames sh g := by
  obtain ⟨command, specs, fbs, _, _, hgs, h⟩ := validate_ok_inv g sh v h
  obtain ⟨hspecs, hc, _⟩ := getSpecializations_ok_inv g sh specs fbs hgs
  have hfalse : ∀ p ∈ specs, p.2.used = false := by
    intro p hp
    rw [hspecs] at hp
    obtain ⟨x, _, rfl⟩ := List.mem_map.mp hp
    rfl
  rw [(finishValidate_warnings g sh command _ specs fbs v h).2,
    markUsed_congr _ (Spec.referred g) specs (erased_iff_referred g hc),
    markUsed_mem_unused (Spec.referred g) specs hfalse n, mem_unusedSpecNames, hspecs, specList_keys,
    mem_targetSpecNames]

end Complgen.Check
