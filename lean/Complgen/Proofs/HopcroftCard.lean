/-
The automaton returned by `minimize` is CO-ACCESSIBLE (hence trim, with `minimize_accessible`), and
it has the LEAST NUMBER OF STATES among all automata (of the type `Auto`: partial deterministic
automata) that accept the same words — the Myhill–Nerode bound, for EVERY work-list schedule.
Last, what the theorems about `minimize` give for the automata of the subset construction, which
meet their hypotheses (`BuildWF.lean`).
-/
import Complgen.Proofs.HopcroftMin
import Complgen.Proofs.MyhillNerode
import Complgen.Proofs.BuildWF
namespace Complgen.Min

/-- `CoAcc a` cannot be dropped, see `exNotReduced_spec`: there the states 2 and 3 of the result
accept nothing. -/
theorem minimize_coaccessible (σ : Schedule) (a m : Auto) (hwf : WF a) (hco : CoAcc a)
    (h : minimize σ a = some m) :
    ∀ q ∈ m.states, ∃ w : List Nat, accFrom m q w = true := by
  obtain ⟨P, _, hP, hS, rfl⟩ := minimize_some hwf h
  intro q hq
  obtain ⟨r, hQ, _, hr⟩ := min_state_spec hwf hP hS hq
  obtain ⟨q0, hq0, rfl⟩ := QState_rep hQ
  obtain ⟨w, hw⟩ := hco q0 hq0
  refine ⟨w, ?_⟩
  rw [hr, accC_rep hP hS (mem_allStates.2 (.inr hq0)) w, ← hwf.accFrom_eq_accC]
  exact hw

/-- **The minimised automaton is trim**: every state lies on a path from the start state to an
accepting state. -/
theorem minimize_trim (σ : Schedule) (a m : Auto) (hwf : WF a) (hco : CoAcc a) (hacc : Access a)
    (h : minimize σ a = some m) :
    ∀ q ∈ m.states, (∃ u : List Nat, m.run m.start u = some q) ∧
      (∃ w : List Nat, accFrom m q w = true) :=
  fun q hq => ⟨minimize_accessible σ a m hwf hacc h q hq, minimize_coaccessible σ a m hwf hco h q hq⟩

/-- **A reduced trim automaton is minimal** (Myhill–Nerode, for partial deterministic automata).
A missing transition is the implicit dead state, which is not counted on either side — this is why
co-accessibility of `m` is required: a state of `m` that accepts nothing could correspond to the
dead state of `b`. -/
theorem reduced_trim_minimal (m b : Auto)
    (hacc : ∀ q ∈ m.states, ∃ w : List Nat, m.run m.start w = some q)
    (hco : ∀ q ∈ m.states, ∃ w : List Nat, accFrom m q w = true)
    (hred : ∀ p ∈ m.states, ∀ q ∈ m.states, p ≠ q →
      ∃ w : List Nat, accFrom m p w ≠ accFrom m q w)
    (hlang : ∀ w : List Nat, b.accepts w = m.accepts w) :
    m.states.length ≤ b.states.length :=
  card_le_of_reduced_trim (fun u v => accFrom_append m u v m.start)
    (fun u v => accFrom_append b u v b.start)
    (fun _ _ h => run_mem_states (mem_states.2 (.inl rfl)) h) (states_nodup m) hacc hco hred hlang

/-- **`minimize` returns an automaton with the least number of states**, for every schedule: no
automaton `b` that accepts the words of `a` has fewer states than `minimize σ a`. -/
theorem minimize_minimal_card (σ : Schedule) (a m : Auto) (hwf : WF a) (hco : CoAcc a)
    (hacc : Access a) (h : minimize σ a = some m) (b : Auto)
    (hb : ∀ w : List Nat, b.accepts w = a.accepts w) :
    m.states.length ≤ b.states.length :=
  reduced_trim_minimal m b (minimize_accessible σ a m hwf hacc h)
    (minimize_coaccessible σ a m hwf hco h) (minimize_reduced σ a m hwf hco h)
    (fun w => by rw [hb, minimize_lang σ a m hwf h])

/-- the number of states of the minimised automaton depends only on the language of the input — not on
the input automaton, nor on the iteration order of the minimiser's hash containers: both results are
smallest automata of the same language -/
theorem minimised_size_language_only (σ₁ σ₂ : Schedule) (a₁ a₂ m₁ m₂ : Auto)
    (hwf₁ : WF a₁) (hco₁ : CoAcc a₁) (hacc₁ : Access a₁)
    (hwf₂ : WF a₂) (hco₂ : CoAcc a₂) (hacc₂ : Access a₂)
    (hL : ∀ w, a₁.accepts w = a₂.accepts w)
    (h₁ : minimize σ₁ a₁ = some m₁) (h₂ : minimize σ₂ a₂ = some m₂) :
    m₁.states.length = m₂.states.length ∧ ∀ w, m₁.accepts w = m₂.accepts w := by
  have l₁ := minimize_lang σ₁ a₁ m₁ hwf₁ h₁
  have l₂ := minimize_lang σ₂ a₂ m₂ hwf₂ h₂
  refine ⟨Nat.le_antisymm ?_ ?_, fun w => (l₁ w).trans ((hL w).trans (l₂ w).symm)⟩
  · exact minimize_minimal_card σ₁ a₁ m₁ hwf₁ hco₁ hacc₁ h₁ m₂ fun w => (l₂ w).trans (hL w).symm
  · exact minimize_minimal_card σ₂ a₂ m₂ hwf₂ hco₂ hacc₂ h₂ m₁ fun w => (l₁ w).trans (hL w)

end Complgen.Min

namespace Complgen

theorem minimize_buildAuto_lang (σ σ' : Schedule) (r : Regex) (symOf : Nat → Option Inp)
    (a m : Auto) (h : buildAuto σ r symOf = some a) (hm : Min.minimize σ' a = some m) :
    ∀ w : List Nat, m.accepts w = a.accepts w :=
  Min.minimize_lang σ' a m (buildAuto_WF σ r symOf a h) hm

theorem minimize_buildAuto_accessible (σ σ' : Schedule) (r : Regex) (symOf : Nat → Option Inp)
    (a m : Auto) (h : buildAuto σ r symOf = some a) (hm : Min.minimize σ' a = some m) :
    ∀ q ∈ m.states, ∃ w : List Nat, m.run m.start w = some q :=
  Min.minimize_accessible σ' a m (buildAuto_WF σ r symOf a h) (buildAuto_access σ r symOf a h) hm

theorem minimize_buildAuto_reduced (σ σ' : Schedule) (r : Regex) (symOf : Nat → Option Inp)
    (a m : Auto) (hl : r.root.Linear) (hpos : ∀ q ∈ r.root.positions, q < r.endPos)
    (hne : r.root.NoEmptyOr) (hsym : ∀ p, p < r.inputs.length → (symOf p).isSome)
    (hend : symOf r.endPos = none)
    (h : buildAuto σ r symOf = some a) (hm : Min.minimize σ' a = some m) :
    ∀ p ∈ m.states, ∀ q ∈ m.states, p ≠ q →
      ∃ w : List Nat, Min.accFrom m p w ≠ Min.accFrom m q w :=
  Min.minimize_reduced σ' a m (buildAuto_WF σ r symOf a h)
    (buildAuto_coacc σ r symOf a hl hpos hne hsym hend h) hm

/-- **Reduced and accessible, from the expression**: for an expression without empty alternations
whose leaves all carry a symbol, the minimised automaton of the automaton built from
`Regex.ofExpr e` is reduced and accessible. -/
theorem minimize_raw_reduced_accessible (σ σ' : Schedule) (e : Expr) (pool : RxPool)
    (symOf : Nat → Option Inp) (a m : Auto) (hne : e.NoEmptyAlt)
    (hsym : ∀ p, p < e.leafCount → (symOf p).isSome)
    (hend : symOf e.leafCount = none)
    (h : buildAuto σ (Regex.ofExpr e pool).1 symOf = some a)
    (hm : Min.minimize σ' a = some m) :
    (∀ p ∈ m.states, ∀ q ∈ m.states, p ≠ q →
      ∃ w : List Nat, Min.accFrom m p w ≠ Min.accFrom m q w) ∧
    (∀ q ∈ m.states, ∃ w : List Nat, m.run m.start w = some q) :=
  ⟨Min.minimize_reduced σ' a m (buildAuto_WF σ _ symOf a h)
      (buildAuto_ofExpr_coacc σ e pool symOf a hne hsym hend h) hm,
    minimize_buildAuto_accessible σ σ' _ symOf a m h hm⟩

/-- **Least number of states, from the expression**: for an expression without empty alternations
whose leaves all carry a symbol, no automaton that accepts the words of the raw automaton `a`
built from `Regex.ofExpr e` has fewer states than the minimised automaton `m`.  Moreover every state
of `m` can reach acceptance (with `minimize_raw_reduced_accessible`: `m` is reduced and trim). -/
theorem minimize_raw_minimal_card (σ σ' : Schedule) (e : Expr) (pool : RxPool)
    (symOf : Nat → Option Inp) (a m : Auto) (hne : e.NoEmptyAlt)
    (hsym : ∀ p, p < e.leafCount → (symOf p).isSome)
    (hend : symOf e.leafCount = none)
    (h : buildAuto σ (Regex.ofExpr e pool).1 symOf = some a)
    (hm : Min.minimize σ' a = some m) :
    (∀ q ∈ m.states, ∃ w : List Nat, Min.accFrom m q w = true) ∧
    ∀ b : Auto, (∀ w : List Nat, b.accepts w = a.accepts w) →
      m.states.length ≤ b.states.length := by
  have hwf := buildAuto_WF σ _ symOf a h
  have hco := buildAuto_ofExpr_coacc σ e pool symOf a hne hsym hend h
  exact ⟨Min.minimize_coaccessible σ' a m hwf hco hm,
    Min.minimize_minimal_card σ' a m hwf hco (buildAuto_access σ _ symOf a h) hm⟩

end Complgen
