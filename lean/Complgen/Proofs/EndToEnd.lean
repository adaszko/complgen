/-
Composition of the parser, validation, pipeline and minimiser theorems: statements about what the
model of the whole compiler (`Parse.parse` ▸ `Pipeline.compile`) does on *source text*.
-/
import Complgen.Proofs.PipelineMin
import Complgen.Proofs.NoEmptyAlt
import Complgen.Proofs.Meaning
namespace Complgen.Pipeline
open Complgen.Check

theorem compile_parsed_NoEmptyAlt (σ : Schedule) (input : List Char) (g : Grammar) (sh : Shell)
    (c : Compiled) (hp : Parse.parse input = .ok g) (h : compile σ g sh = .ok c) :
    c.valid.expr.NoEmptyAlt :=
  parse_validate_NoEmptyAlt input g sh c.valid hp (compile_ok_inv σ g sh c h).1

/-- **From source text to the minimal automaton**: for every text the parser model accepts and every
shell and schedule for which the pipeline model produces a result, the minimised main automaton
accepts the words of the raw one, no two of its states are equivalent, and all are reachable. -/
theorem compile_parsed_minimal (σ : Schedule) (input : List Char) (g : Grammar) (sh : Shell)
    (c : Compiled) (hp : Parse.parse input = .ok g) (h : compile σ g sh = .ok c) :
    (∀ w, c.min.main.accepts w = c.raw.main.accepts w) ∧
    (∀ p ∈ c.min.main.states, ∀ q ∈ c.min.main.states, p ≠ q →
      ∃ w : List Nat, Min.accFrom c.min.main p w ≠ Min.accFrom c.min.main q w) ∧
    (∀ q ∈ c.min.main.states, ∃ w : List Nat, c.min.main.run c.min.main.start w = some q) :=
  ⟨compile_min_language σ g sh c h,
   compile_min_minimal σ g sh c h (compile_parsed_NoEmptyAlt σ input g sh c hp h)⟩

/-- **… and the smallest one**: every state of the minimised main automaton can reach acceptance, and
no automaton whatever that accepts the words of the raw automaton has fewer states. -/
theorem compile_parsed_smallest (σ : Schedule) (input : List Char) (g : Grammar) (sh : Shell)
    (c : Compiled) (hp : Parse.parse input = .ok g) (h : compile σ g sh = .ok c) :
    (∀ q ∈ c.min.main.states, ∃ w : List Nat, Min.accFrom c.min.main q w = true) ∧
    ∀ b : Auto, (∀ w : List Nat, b.accepts w = c.raw.main.accepts w) →
      c.min.main.states.length ≤ b.states.length := by
  obtain ⟨_, syms, _, hsym, hend, hraw, hmin⟩ := compile_ok_main σ g sh c h
  exact minimize_raw_minimal_card σ σ c.valid.expr [] _ c.raw.main c.min.main
    (compile_parsed_NoEmptyAlt σ input g sh c hp h) hsym hend hraw hmin

/-- **The compiled automaton recognises the grammar's meaning** (pipeline form of `C02_end_to_end`, with
its side conditions discharged): whenever the pipeline model produces a result, both the raw and the
minimised main automaton accept exactly the label sequences of the words of `Spec.meaningAt g sh`,
the label of position `p` being the symbol `symbolsOf` computed for it. -/
theorem compile_meaning (σ : Schedule) (g : Grammar) (sh : Shell) (c : Compiled)
    (h : compile σ g sh = .ok c) :
    ∃ syms, symbolsOf σ c.pool c.regex.inputs = .ok (syms, c.raw.subs) ∧
      ∀ w : List Inp,
        (c.raw.main.acceptsInp w = true ↔
          ∃ ps, (Spec.meaningAt (Check.topSpan g) g sh).denPos 0 ps ∧
            ps.map (fun p => syms[p]?) = w.map some) ∧
        c.min.main.acceptsInp w = c.raw.main.acceptsInp w := by
  obtain ⟨hv, syms, hs, _, hend, hraw, hmin⟩ := compile_ok_main σ g sh c h
  refine ⟨syms, hs, fun w => ⟨?_, ?_⟩⟩
  · rw [← Check.validate_expr_eq_meaning g sh c.valid hv]
    exact raw_automaton_correct σ c.valid.expr [] _ c.raw.main hend hraw w
  · exact Min.minimize_acceptsInp σ c.raw.main c.min.main (buildAuto_WF σ _ _ _ hraw) hmin w

end Complgen.Pipeline
