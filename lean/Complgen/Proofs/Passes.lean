/-
The passes of the model of check.rs that have a counterpart in the specification (`Spec/Den.lean`)
are the same functions: distributing descriptions, keeping the topmost juxtaposition as one word
with a flattened inside, labelling every item with the index of its branch in the innermost `||`.
-/
import Complgen.Model.Check
import Complgen.Spec.Den
namespace Complgen.Check

mutual
theorem distr_eq_spec : ∀ (e : Expr) (p : Option String), distr e p = Spec.distr e p
  | .term _ d _ _ => fun p => by cases d <;> cases p <;> rfl
  | .nonterm .. | .cmd .. => fun _ => rfl
  | .dd c d _ => fun p => congrArg (·.1, p) (distr_eq_spec c (some d))
  | .opt c s => fun p => congrArg (fun r => (Expr.opt r.1 s, r.2)) (distr_eq_spec c p)
  | .many1 c s => fun p => congrArg (fun r => (Expr.many1 r.1 s, r.2)) (distr_eq_spec c p)
  | .sub c l s => fun p => congrArg (fun r => (Expr.sub r.1 l s, r.2)) (distr_eq_spec c p)
  | .seq cs s => fun p => congrArg (fun r => (Expr.seq r.1 s, r.2)) (distrSeq_eq_spec cs p)
  | .fb cs s => fun p => congrArg (fun r => (Expr.fb r.1 s, r.2)) (distrSeq_eq_spec cs p)
  | .alt cs s => fun p => congrArg (fun r => (Expr.alt r.1 s, if r.2 then none else p)) (distrAlt_eq_spec cs p)
theorem distrSeq_eq_spec : ∀ (es : ExprL) (p : Option String), distrSeq es p = Spec.distrSeq es p
  | .nil => fun _ => rfl
  | .cons e es => fun p => by
    show (ExprL.cons _ _, _) = (ExprL.cons _ _, _)
    rw [distr_eq_spec e p, distrSeq_eq_spec es (Spec.distr e p).2]
theorem distrAlt_eq_spec : ∀ (es : ExprL) (p : Option String), distrAlt es p = Spec.distrAlt es p
  | .nil => fun _ => rfl
  | .cons e es => fun p => by
    show (ExprL.cons _ _, _) = (ExprL.cons _ _, _)
    rw [distr_eq_spec e p, distrAlt_eq_spec es p, Bool.and_comm]
end

/-- **Descriptions are distributed as the documented rule says** (first literal of each alternative,
spent once per sequence): the model's pass is the specification's function. -/
theorem distribute_eq_spec (e : Expr) : distribute e = (Spec.distr e none).1 := by
  unfold distribute; rw [distr_eq_spec]

mutual
/-- no `( … ) "descr"` node occurs (they are distributed away by the first pass) -/
def NoDD : Expr → Bool
  | .dd .. => false
  | .seq cs _ | .alt cs _ | .fb cs _ => NoDDL cs
  | .opt c _ | .many1 c _ | .sub c _ _ => NoDD c
  | _ => true
def NoDDL : ExprL → Bool
  | .nil => true
  | .cons e es => NoDD e && NoDDL es
end

theorem noDDL_cons {e : Expr} {es : ExprL} : NoDDL (.cons e es) = true ↔ NoDD e = true ∧ NoDDL es = true :=
  Bool.and_eq_true_iff

theorem cons_congr {e e' : Expr} {es es' : ExprL} (he : e = e') (hes : es = es') :
    ExprL.cons e es = .cons e' es' := he ▸ hes ▸ rfl

mutual
/-- `flatten_expr` = the specification's `unword` -/
theorem flatten_spec : ∀ e : Expr, NoDD e = true → flatten e = Spec.unword e
  | .term .. | .nonterm .. | .cmd .. => fun _ => rfl
  | .dd .. => fun h => nomatch h
  | .sub c _ _ => flatten_spec c
  | .opt c s => fun h => congrArg (Expr.opt · s) (flatten_spec c h)
  | .many1 c s => fun h => congrArg (Expr.many1 · s) (flatten_spec c h)
  | .seq cs s => fun h => congrArg (Expr.seq · s) (flattenL_spec cs h)
  | .alt cs s => fun h => congrArg (Expr.alt · s) (flattenL_spec cs h)
  | .fb cs s => fun h => congrArg (Expr.fb · s) (flattenL_spec cs h)
theorem flattenL_spec : ∀ es : ExprL, NoDDL es = true → flattenL es = Spec.unwordL es
  | .nil => fun _ => rfl
  | .cons e es => fun h =>
    cons_congr (flatten_spec e (noDDL_cons.mp h).1) (flattenL_spec es (noDDL_cons.mp h).2)
end

mutual
/-- `collapse_subwords` = the specification's rule 5: the topmost juxtaposition stays one word, its
inside is flattened -/
theorem collapse_spec : ∀ e : Expr, NoDD e = true → collapse e = Spec.words e
  | .term .. | .nonterm .. | .cmd .. => fun _ => rfl
  | .dd .. => fun h => nomatch h
  | .sub c l s => fun h => congrArg (Expr.sub · l s) (flatten_spec c h)
  | .opt c s => fun h => congrArg (Expr.opt · s) (collapse_spec c h)
  | .many1 c s => fun h => congrArg (Expr.many1 · s) (collapse_spec c h)
  | .seq cs s => fun h => congrArg (Expr.seq · s) (collapseL_spec cs h)
  | .alt cs s => fun h => congrArg (Expr.alt · s) (collapseL_spec cs h)
  | .fb cs s => fun h => congrArg (Expr.fb · s) (collapseL_spec cs h)
theorem collapseL_spec : ∀ es : ExprL, NoDDL es = true → collapseL es = Spec.wordsL es
  | .nil => fun _ => rfl
  | .cons e es => fun h =>
    cons_congr (collapse_spec e (noDDL_cons.mp h).1) (collapseL_spec es (noDDL_cons.mp h).2)
end

mutual
/-- `propagate_fallback_levels` = the specification's rule 4: every item carries the index of its
branch in the innermost enclosing `||` (levels restart inside a nested `||`) -/
theorem propagate_spec : ∀ (e : Expr) (lvl : Nat), NoDD e = true → propagate e lvl = Spec.label e lvl
  | .term .. | .nonterm .. | .cmd .. => fun _ _ => rfl
  | .dd .. => fun _ h => nomatch h
  | .sub c _ s => fun lvl h => congrArg (Expr.sub · lvl s) (propagate_spec c lvl h)
  | .opt c s => fun lvl h => congrArg (Expr.opt · s) (propagate_spec c lvl h)
  | .many1 c s => fun lvl h => congrArg (Expr.many1 · s) (propagate_spec c lvl h)
  | .seq cs s => fun lvl h => congrArg (Expr.seq · s) (propagateL_spec cs lvl h)
  | .alt cs s => fun lvl h => congrArg (Expr.alt · s) (propagateL_spec cs lvl h)
  | .fb cs s => fun _ h => congrArg (Expr.fb · s) (propagateFb_spec cs 0 h)
theorem propagateL_spec : ∀ (es : ExprL) (lvl : Nat), NoDDL es = true → propagateL es lvl = Spec.labelL es lvl
  | .nil => fun _ _ => rfl
  | .cons e es => fun lvl h =>
    cons_congr (propagate_spec e lvl (noDDL_cons.mp h).1) (propagateL_spec es lvl (noDDL_cons.mp h).2)
theorem propagateFb_spec : ∀ (es : ExprL) (i : Nat), NoDDL es = true → propagateFb es i = Spec.labelFb es i
  | .nil => fun _ _ => rfl
  | .cons e es => fun i h =>
    cons_congr (propagate_spec e i (noDDL_cons.mp h).1) (propagateFb_spec es (i + 1) (noDDL_cons.mp h).2)
end

mutual
theorem distr_noDD : ∀ (e : Expr) (p : Option String), NoDD (distr e p).1 = true
  | .term _ d _ _ => fun p => by cases d <;> cases p <;> rfl
  | .nonterm .. | .cmd .. => fun _ => rfl
  | .dd c d _ => fun _ => distr_noDD c (some d)
  | .opt c _ | .many1 c _ | .sub c _ _ => distr_noDD c
  | .seq cs _ | .fb cs _ => distrSeq_noDD cs
  | .alt cs _ => distrAlt_noDD cs
theorem distrSeq_noDD : ∀ (es : ExprL) (p : Option String), NoDDL (distrSeq es p).1 = true
  | .nil => fun _ => rfl
  | .cons e es => fun p => noDDL_cons.mpr ⟨distr_noDD e p, distrSeq_noDD es (distr e p).2⟩
theorem distrAlt_noDD : ∀ (es : ExprL) (p : Option String), NoDDL (distrAlt es p).1 = true
  | .nil => fun _ => rfl
  | .cons e es => fun p => noDDL_cons.mpr ⟨distr_noDD e p, distrAlt_noDD es p⟩
end

theorem distribute_noDD (e : Expr) : NoDD (distribute e) = true := distr_noDD e none

end Complgen.Check
