/-
Soundness of the determinism checkers of `Complgen.Cert.Det`: a passed check gives determinism of
the transitions (after renaming keys by what they match, for the word check), and a reported
conflict is one.
-/
import Complgen.Cert.Det
namespace Complgen.Cert

theorem det_sound (a : KAuto) (h : detCheck a = true) :
    ∀ t ∈ a.trans, ∀ u ∈ a.trans, t.1 = u.1 → t.2.1 = u.2.1 → t.2.2 = u.2.2 := by
  intro t ht u hu h1 h2
  have h' := List.all_eq_true.1 (List.all_eq_true.1 h t ht) u hu
  rw [h1, h2, beq_self_eq_true, beq_self_eq_true] at h'
  simpa using h'

/-- a word-deterministic automaton never has, at one state, two items that match a common word
(same class) and lead to different states -/
theorem wordDet_sound (a : KAuto) (cls : String → String) (h : wordDetCheck a cls = true) :
    ∀ q k₁ k₂ q₁ q₂, (q, k₁, q₁) ∈ a.trans → (q, k₂, q₂) ∈ a.trans → cls k₁ = cls k₂ → q₁ = q₂ :=
  fun q k₁ k₂ q₁ q₂ h1 h2 hc =>
    det_sound (a.mapKeys cls) h (q, cls k₁, q₁) (List.mem_map.mpr ⟨_, h1, rfl⟩)
      (q, cls k₂, q₂) (List.mem_map.mpr ⟨_, h2, rfl⟩) rfl hc

theorem wordConflict_real (a : KAuto) (cls : String → String) (q : Nat) (k₁ k₂ : String) (t₁ t₂ : Nat)
    (h : wordConflict a cls = some (q, k₁, k₂, t₁, t₂)) :
    (q, k₁, t₁) ∈ a.trans ∧ (q, k₂, t₂) ∈ a.trans ∧ cls k₁ = cls k₂ ∧ t₁ ≠ t₂ := by
  unfold wordConflict at h
  obtain ⟨t, ht, h⟩ := List.exists_of_findSome?_eq_some h
  obtain ⟨u, hu, h⟩ := List.exists_of_findSome?_eq_some h
  split at h
  · rename_i hc
    simp only [Option.some.injEq, Prod.mk.injEq] at h
    obtain ⟨rfl, rfl, rfl, rfl, rfl⟩ := h
    simp only [Bool.and_eq_true, beq_iff_eq, bne_iff_ne, ne_eq] at hc
    obtain ⟨⟨h1, h2⟩, h3⟩ := hc
    refine ⟨ht, ?_, h2, h3⟩
    have : u = (t.1, u.2.1, u.2.2) := by rw [h1]
    rw [← this]; exact hu
  · cases h

/-- reading a word sequence (by what the words match) is a function of the sequence:
the renamed automaton takes at most one path -/
theorem wordDet_step_unique (a : KAuto) (cls : String → String) (h : wordDetCheck a cls = true)
    (q : Nat) (c : String) (q₁ q₂ : Nat)
    (h1 : (q, c, q₁) ∈ (a.mapKeys cls).trans) (h2 : (q, c, q₂) ∈ (a.mapKeys cls).trans) : q₁ = q₂ :=
  det_sound (a.mapKeys cls) h _ h1 _ h2 rfl rfl

end Complgen.Cert
