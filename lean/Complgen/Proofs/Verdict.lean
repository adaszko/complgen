/-
C08: the complete characterisation of the verdict of `Check.validate` (the model of
`ValidGrammar::from_grammar`): which diagnostic is given for which mistake, in the order the code
checks them; no diagnostic is given without its mistake; grammars without mistakes pass.  C06: the only
crash of the model is the native stack of `check_subword_spaces` (modelled by `stackFuel`).
-/
import Complgen.Proofs.Cycle
namespace Complgen.Check

theorem commandOf_cases (g : Grammar) :
    (callsOf g = [] ∧ commandOf g = .err .missingCallVariants []) ∨
    (∃ a b, a ∈ callNames g ∧ b ∈ callNames g ∧ a ≠ b ∧ ∃ spans, commandOf g = .err .varyingCommandNames spans) ∨
    (∃ n, OneCommand g n ∧ '/' ∈ n.toList ∧ ∃ sp, commandOf g = .err .invalidCommandName [sp]) ∨
    (∃ n, OneCommand g n ∧ '/' ∉ n.toList ∧ commandOf g = .ok n) := by
  cases hc : callsOf g with
  | nil => exact .inl ⟨rfl, commandOf_no_calls g hc⟩
  | cons x0 rest =>
    right
    by_cases hall : ∀ x ∈ callsOf g, x.1 = x0.1
    · have hone : OneCommand g x0.1 := ⟨by rw [hc]; simp, hall⟩
      by_cases hs : '/' ∈ x0.1.toList
      · exact .inr (.inl ⟨x0.1, hone, hs, commandOf_slash g x0.1 hone hs⟩)
      · exact .inr (.inr ⟨x0.1, hone, hs, commandOf_ok g x0.1 hone hs⟩)
    · left
      obtain ⟨x, hx, hxe⟩ : ∃ x ∈ callsOf g, x.1 ≠ x0.1 := by
        simpa only [Classical.not_forall, Classical.not_imp, exists_prop] using hall
      have ha : x0.1 ∈ callNames g := List.mem_map.mpr ⟨x0, by rw [hc]; simp, rfl⟩
      have hb : x.1 ∈ callNames g := List.mem_map.mpr ⟨x, hx, rfl⟩
      exact ⟨x0.1, x.1, ha, hb, fun e => hxe e.symm, commandOf_varying g x0.1 x.1 ha hb (fun e => hxe e.symm)⟩

/-! ### the check of spaces inside words: its inputs and its result as functions of the grammar -/

def expandedTable (g : Grammar) (sh : Shell) : AList (Span × Expr) :=
  match resolutionOrder (tableOf sh g) with
  | .ok order => (order.foldl resStep (tableOf sh g, [])).1
  | .error _ => tableOf sh g

/-- the result of `check_subword_spaces` on the grammar, with the stack the model grants it -/
def spacesVerdict (g : Grammar) (sh : Shell) : SpacesResult :=
  spaces (expandedTable g sh) stackFuel (topSpecialised g sh) [] false

def Cyclic (g : Grammar) (sh : Shell) : Prop := ∃ u, Reach (depGraph (tableOf sh g)) u u

theorem finishValidate_spaces (g : Grammar) (sh : Shell) (command : String) (specs : AList UserSpec)
    (fbs : AList String) (hgs : getSpecializations g sh = .ok (specs, fbs)) (order : List String)
    (hro : resolutionOrder (tableOf sh g) = .ok order) :
    (spacesVerdict g sh = .overflow →
      finishValidate g sh command (plainDefs g) specs fbs = .crash spacesCrash) ∧
    (∀ l r t, spacesVerdict g sh = .bad l r t →
      finishValidate g sh command (plainDefs g) specs fbs = .err .subwordSpaces (l :: r :: t)) ∧
    (spacesVerdict g sh = .fine →
      ∃ v, finishValidate g sh command (plainDefs g) specs fbs = .ok v) := by
  obtain ⟨U, US, he⟩ := finishValidate_eq g sh command specs fbs hgs
  rw [he, hro]
  unfold spacesVerdict expandedTable
  rw [hro]
  simp only
  rw [resFold_fst_indep order (tableOf sh g) U []]
  refine ⟨?_, ?_, ?_⟩
  · intro h; rw [h]
  · intro l r t h; rw [h]
  · intro h; rw [h]; exact ⟨_, rfl⟩

theorem resolutionOrder_ok_of_acyclic (g : Grammar) (sh : Shell) (h : ¬ Cyclic g sh) :
    ∃ order, resolutionOrder (tableOf sh g) = .ok order := by
  cases hro : resolutionOrder (tableOf sh g) with
  | ok order => exact ⟨order, rfl⟩
  | error spans => exact absurd (resolutionOrder_error_cycle _ spans hro) h

/-- everything `from_grammar` checks before it expands the definitions is in order -/
structure WellFormed (g : Grammar) (sh : Shell) (n : String) : Prop where
  one : OneCommand g n
  noSlash : '/' ∉ n.toList
  plain : ((plainDefs g).map (·.1)).Nodup
  specs : SpecsClean g sh
  shadowed : ShadowedPlainAreCmds g sh

theorem verdict_no_variant (g : Grammar) (sh : Shell) (h : callsOf g = []) :
    validate g sh = .err .missingCallVariants [] := by
  unfold validate
  rw [commandOf_no_calls g h]

theorem verdict_varying (g : Grammar) (sh : Shell) (a b : String)
    (ha : a ∈ callNames g) (hb : b ∈ callNames g) (hab : a ≠ b) :
    ∃ spans, validate g sh = .err .varyingCommandNames spans := by
  obtain ⟨spans, h⟩ := commandOf_varying g a b ha hb hab
  exact ⟨spans, by unfold validate; rw [h]⟩

theorem verdict_slash (g : Grammar) (sh : Shell) (n : String) (h : OneCommand g n) (hs : '/' ∈ n.toList) :
    ∃ sp, validate g sh = .err .invalidCommandName [sp] := by
  obtain ⟨sp, h⟩ := commandOf_slash g n h hs
  exact ⟨sp, by unfold validate; rw [h]⟩

theorem verdict_dup_plain (g : Grammar) (sh : Shell) (n : String) (h : OneCommand g n) (hs : '/' ∉ n.toList)
    (hd : ¬ ((plainDefs g).map (·.1)).Nodup) :
    ∃ spans, validate g sh = .err .duplicateNonterminalDefinition spans :=
  validate_dup_plain g sh n (commandOf_ok g n h hs) hd

theorem verdict_spec_fault (g : Grammar) (sh : Shell) (n : String) (h : OneCommand g n) (hs : '/' ∉ n.toList)
    (hd : ((plainDefs g).map (·.1)).Nodup) (x : SpecDef) (hf : FirstSpecFault g sh x) :
    (isCmdSpec x = false → validate g sh = .err .nonCommandSpecialization [x.2.2.2.2.span]) ∧
    (isCmdSpec x = true → knownShell x = false → validate g sh = .err .unknownShell [x.2.2.2.1]) ∧
    (isCmdSpec x = true → knownShell x = true →
      ∃ spans, validate g sh = .err .duplicateNonterminalDefinition spans) := by
  obtain ⟨f1, f2, f3⟩ := getSpecializations_fault g sh x hf
  have hv := validate_after_plain g sh n (commandOf_ok g n h hs) hd
  refine ⟨?_, ?_, ?_⟩
  · intro hc; rw [hv, f1 hc]
  · intro hc hk; rw [hv, f2 hc hk]
  · intro hc hk
    obtain ⟨spans, he⟩ := f3 hc hk
    exact ⟨spans, by rw [hv, he]⟩

theorem verdict_shadow (g : Grammar) (sh : Shell) (n : String) (h : OneCommand g n) (hs : '/' ∉ n.toList)
    (hd : ((plainDefs g).map (·.1)).Nodup) (hc : SpecsClean g sh) (hsh : ¬ ShadowedPlainAreCmds g sh) :
    ∃ spans, validate g sh = .err .nonCommandSpecialization spans := by
  obtain ⟨spans, he⟩ := getSpecializations_shadow g sh hd hc hsh
  exact ⟨spans, by rw [validate_after_plain g sh n (commandOf_ok g n h hs) hd, he]⟩

theorem verdict_cycle (g : Grammar) (sh : Shell) (n : String) (w : WellFormed g sh n) (hcyc : Cyclic g sh) :
    ∃ spans, validate g sh = .err .nonterminalDefinitionsCycle spans := by
  obtain ⟨specs, fbs, hgs⟩ := getSpecializations_clean g sh w.plain w.specs w.shadowed
  obtain ⟨v, hv⟩ := hcyc
  exact validate_cycle g sh n (commandOf_ok g n w.one w.noSlash) w.plain specs fbs hgs v hv

theorem verdict_spaces (g : Grammar) (sh : Shell) (n : String) (w : WellFormed g sh n) (hcyc : ¬ Cyclic g sh) :
    (∀ l r t, spacesVerdict g sh = .bad l r t → validate g sh = .err .subwordSpaces (l :: r :: t)) ∧
    (spacesVerdict g sh = .overflow → validate g sh = .crash spacesCrash) ∧
    (spacesVerdict g sh = .fine → ∃ v, validate g sh = .ok v) := by
  obtain ⟨specs, fbs, hgs⟩ := getSpecializations_clean g sh w.plain w.specs w.shadowed
  obtain ⟨order, hro⟩ := resolutionOrder_ok_of_acyclic g sh hcyc
  have hv := validate_after_plain g sh n (commandOf_ok g n w.one w.noSlash) w.plain
  rw [hgs] at hv
  simp only at hv
  obtain ⟨f1, f2, f3⟩ := finishValidate_spaces g sh n specs fbs hgs order hro
  refine ⟨?_, ?_, ?_⟩
  · intro l r t h; rw [hv, f2 l r t h]
  · intro h; rw [hv, f1 h]
  · intro h
    obtain ⟨v, he⟩ := f3 h
    exact ⟨v, by rw [hv, he]⟩

/-- The cases of `from_grammar`, in the order the code decides them; each carries the condition under which
it applies (with the conditions of the earlier ones excluded) and the verdict it gives. -/
inductive VerdictCase (g : Grammar) (sh : Shell) : Prop
  | noVariant (h : callsOf g = []) (hv : validate g sh = .err .missingCallVariants [])
  | varying (a b : String) (ha : a ∈ callNames g) (hb : b ∈ callNames g) (hab : a ≠ b) (spans : List Span)
      (hv : validate g sh = .err .varyingCommandNames spans)
  | slash (n : String) (h : OneCommand g n) (hs : '/' ∈ n.toList) (sp : Span)
      (hv : validate g sh = .err .invalidCommandName [sp])
  | dupPlain (n : String) (h : OneCommand g n) (hs : '/' ∉ n.toList) (hd : ¬ ((plainDefs g).map (·.1)).Nodup)
      (spans : List Span) (hv : validate g sh = .err .duplicateNonterminalDefinition spans)
  | specNotCommand (n : String) (h : OneCommand g n) (hs : '/' ∉ n.toList) (hd : ((plainDefs g).map (·.1)).Nodup)
      (x : SpecDef) (hf : FirstSpecFault g sh x) (hc : isCmdSpec x = false)
      (hv : validate g sh = .err .nonCommandSpecialization [x.2.2.2.2.span])
  | specUnknownShell (n : String) (h : OneCommand g n) (hs : '/' ∉ n.toList) (hd : ((plainDefs g).map (·.1)).Nodup)
      (x : SpecDef) (hf : FirstSpecFault g sh x) (hc : isCmdSpec x = true) (hk : knownShell x = false)
      (hv : validate g sh = .err .unknownShell [x.2.2.2.1])
  | specDuplicate (n : String) (h : OneCommand g n) (hs : '/' ∉ n.toList) (hd : ((plainDefs g).map (·.1)).Nodup)
      (x : SpecDef) (hf : FirstSpecFault g sh x) (hc : isCmdSpec x = true) (hk : knownShell x = true)
      (spans : List Span) (hv : validate g sh = .err .duplicateNonterminalDefinition spans)
  | shadowNotCommand (n : String) (h : OneCommand g n) (hs : '/' ∉ n.toList) (hd : ((plainDefs g).map (·.1)).Nodup)
      (hc : SpecsClean g sh) (hsh : ¬ ShadowedPlainAreCmds g sh) (spans : List Span)
      (hv : validate g sh = .err .nonCommandSpecialization spans)
  | cycle (n : String) (w : WellFormed g sh n) (hcyc : Cyclic g sh) (spans : List Span)
      (hv : validate g sh = .err .nonterminalDefinitionsCycle spans)
  | spacesBad (n : String) (w : WellFormed g sh n) (hcyc : ¬ Cyclic g sh) (l r : Span) (t : List Span)
      (hsp : spacesVerdict g sh = .bad l r t) (hv : validate g sh = .err .subwordSpaces (l :: r :: t))
  | spacesOverflow (n : String) (w : WellFormed g sh n) (hcyc : ¬ Cyclic g sh)
      (hsp : spacesVerdict g sh = .overflow) (hv : validate g sh = .crash spacesCrash)
  | accepted (n : String) (w : WellFormed g sh n) (hcyc : ¬ Cyclic g sh)
      (hsp : spacesVerdict g sh = .fine) (v : Valid) (hv : validate g sh = .ok v)

/-- **Every grammar falls under one of the cases.** -/
theorem validate_cases (g : Grammar) (sh : Shell) : VerdictCase g sh := by
  by_cases h0 : callsOf g = []
  · exact .noVariant h0 (verdict_no_variant g sh h0)
  rcases commandOf_cases g with ⟨h, _⟩ | ⟨a, b, ha, hb, hab, _⟩ | ⟨n, hone, hs, _⟩ | ⟨n, hone, hs, _⟩
  · exact absurd h h0
  · obtain ⟨spans, hv⟩ := verdict_varying g sh a b ha hb hab
    exact .varying a b ha hb hab spans hv
  · obtain ⟨sp, hv⟩ := verdict_slash g sh n hone hs
    exact .slash n hone hs sp hv
  · by_cases hd : ((plainDefs g).map (·.1)).Nodup
    case neg =>
      obtain ⟨spans, hv⟩ := verdict_dup_plain g sh n hone hs hd
      exact .dupPlain n hone hs hd spans hv
    rcases specsClean_or_fault g sh with hc | ⟨x, hf⟩
    · by_cases hsh : ShadowedPlainAreCmds g sh
      case neg =>
        obtain ⟨spans, hv⟩ := verdict_shadow g sh n hone hs hd hc hsh
        exact .shadowNotCommand n hone hs hd hc hsh spans hv
      have w : WellFormed g sh n := ⟨hone, hs, hd, hc, hsh⟩
      by_cases hcyc : Cyclic g sh
      · obtain ⟨spans, hv⟩ := verdict_cycle g sh n w hcyc
        exact .cycle n w hcyc spans hv
      · obtain ⟨f1, f2, f3⟩ := verdict_spaces g sh n w hcyc
        cases hsp : spacesVerdict g sh with
        | fine =>
          obtain ⟨v, hv⟩ := f3 hsp
          exact .accepted n w hcyc hsp v hv
        | bad l r t => exact .spacesBad n w hcyc l r t hsp (f1 l r t hsp)
        | overflow => exact .spacesOverflow n w hcyc hsp (f2 hsp)
    · obtain ⟨f1, f2, f3⟩ := verdict_spec_fault g sh n hone hs hd x hf
      cases hc : isCmdSpec x with
      | false => exact .specNotCommand n hone hs hd x hf hc (f1 hc)
      | true =>
        cases hk : knownShell x with
        | false => exact .specUnknownShell n hone hs hd x hf hc hk (f2 hc hk)
        | true =>
          obtain ⟨spans, hv⟩ := f3 hc hk
          exact .specDuplicate n hone hs hd x hf hc hk spans hv

/-! ### no false diagnostics: each verdict is only given for its mistake -/

/-- what a verdict says of the grammar: the condition of the case of `VerdictCase` that gives it (a class of a
later stage of the pipeline is not given at all) -/
def VerdictReason (g : Grammar) (sh : Shell) : Outcome Valid → Prop
  | .err .missingCallVariants _ => callsOf g = []
  | .err .varyingCommandNames _ => ∃ a b, a ∈ callNames g ∧ b ∈ callNames g ∧ a ≠ b
  | .err .invalidCommandName _ => ∃ n, OneCommand g n ∧ '/' ∈ n.toList
  | .err .duplicateNonterminalDefinition _ => ¬ ((plainDefs g).map (·.1)).Nodup ∨ ¬ TargetSpecsDistinct g sh
  | .err .unknownShell _ => ∃ x ∈ specDefs g, knownShell x = false
  | .err .nonCommandSpecialization _ =>
    (∃ x ∈ specDefs g, isCmdSpec x = false) ∨
    (∃ p ∈ plainDefs g, p.1 ∈ targetSpecNames g sh ∧ isCmdExpr p.2.2 = false)
  | .err .nonterminalDefinitionsCycle _ => Cyclic g sh
  | .err .subwordSpaces spans => ∃ l r t, spacesVerdict g sh = .bad l r t ∧ spans = l :: r :: t
  | .err _ _ => False
  | .crash site => ∃ n, WellFormed g sh n ∧ ¬ Cyclic g sh ∧ spacesVerdict g sh = .overflow ∧ site = spacesCrash
  | .ok _ => ∃ n, WellFormed g sh n ∧ ¬ Cyclic g sh ∧ spacesVerdict g sh = .fine

theorem validate_reason (g : Grammar) (sh : Shell) : VerdictReason g sh (validate g sh) := by
  cases validate_cases g sh with
  | noVariant h hv => rw [hv]; exact h
  | varying a b ha hb hab spans hv => rw [hv]; exact ⟨a, b, ha, hb, hab⟩
  | slash n h hs sp hv => rw [hv]; exact ⟨n, h, hs⟩
  | dupPlain n h hs hd spans hv => rw [hv]; exact .inl hd
  | specNotCommand n h hs hd x hf hc hv => rw [hv]; exact .inl ⟨x, firstSpecFault_mem g sh x hf, hc⟩
  | specUnknownShell n h hs hd x hf hc hk hv => rw [hv]; exact ⟨x, firstSpecFault_mem g sh x hf, hk⟩
  | specDuplicate n h hs hd x hf hc hk spans hv => rw [hv]; exact .inr (fault_dup_not_distinct g sh x hf hc hk)
  | shadowNotCommand n h hs hd hc hsh spans hv => rw [hv]; exact .inr (not_shadowed_witness g sh hsh)
  | cycle n w hcyc spans hv => rw [hv]; exact hcyc
  | spacesBad n w hcyc l r t hsp hv => rw [hv]; exact ⟨l, r, t, hsp, rfl⟩
  | spacesOverflow n w hcyc hsp hv => rw [hv]; exact ⟨n, w, hcyc, hsp, rfl⟩
  | accepted n w hcyc hsp v hv => rw [hv]; exact ⟨n, w, hcyc, hsp⟩

theorem reason_of_verdict {g : Grammar} {sh : Shell} {o : Outcome Valid} (h : validate g sh = o) :
    VerdictReason g sh o := h ▸ validate_reason g sh

theorem missingCallVariants_real (g : Grammar) (sh : Shell) (spans : List Span)
    (h : validate g sh = .err .missingCallVariants spans) : callsOf g = [] :=
  reason_of_verdict h

theorem varyingCommandNames_real (g : Grammar) (sh : Shell) (spans : List Span)
    (h : validate g sh = .err .varyingCommandNames spans) :
    ∃ a b, a ∈ callNames g ∧ b ∈ callNames g ∧ a ≠ b :=
  reason_of_verdict h

theorem invalidCommandName_real (g : Grammar) (sh : Shell) (spans : List Span)
    (h : validate g sh = .err .invalidCommandName spans) : ∃ n, OneCommand g n ∧ '/' ∈ n.toList :=
  reason_of_verdict h

theorem duplicateNonterminalDefinition_real (g : Grammar) (sh : Shell) (spans : List Span)
    (h : validate g sh = .err .duplicateNonterminalDefinition spans) :
    ¬ ((plainDefs g).map (·.1)).Nodup ∨ ¬ TargetSpecsDistinct g sh :=
  reason_of_verdict h

theorem unknownShell_real (g : Grammar) (sh : Shell) (spans : List Span)
    (h : validate g sh = .err .unknownShell spans) : ∃ x ∈ specDefs g, knownShell x = false :=
  reason_of_verdict h

theorem nonCommandSpecialization_real (g : Grammar) (sh : Shell) (spans : List Span)
    (h : validate g sh = .err .nonCommandSpecialization spans) :
    (∃ x ∈ specDefs g, isCmdSpec x = false) ∨
    (∃ p ∈ plainDefs g, p.1 ∈ targetSpecNames g sh ∧ isCmdExpr p.2.2 = false) :=
  reason_of_verdict h

theorem nonterminalDefinitionsCycle_real (g : Grammar) (sh : Shell) (spans : List Span)
    (h : validate g sh = .err .nonterminalDefinitionsCycle spans) : Cyclic g sh :=
  reason_of_verdict h

theorem subwordSpaces_real (g : Grammar) (sh : Shell) (spans : List Span)
    (h : validate g sh = .err .subwordSpaces spans) :
    ∃ l r t, spacesVerdict g sh = .bad l r t ∧ spans = l :: r :: t :=
  reason_of_verdict h

theorem validate_classes (g : Grammar) (sh : Shell) (c : ErrClass) (spans : List Span)
    (h : validate g sh = .err c spans) :
    c = .missingCallVariants ∨ c = .varyingCommandNames ∨ c = .invalidCommandName ∨
    c = .duplicateNonterminalDefinition ∨ c = .unknownShell ∨ c = .nonCommandSpecialization ∨
    c = .nonterminalDefinitionsCycle ∨ c = .subwordSpaces := by
  have hr := reason_of_verdict h
  cases c <;> first | exact False.elim hr | simp

theorem crash_reason (g : Grammar) (sh : Shell) (site : String) (h : validate g sh = .crash site) :
    ∃ n, WellFormed g sh n ∧ ¬ Cyclic g sh ∧ spacesVerdict g sh = .overflow ∧ site = spacesCrash :=
  reason_of_verdict h

theorem crash_real (g : Grammar) (sh : Shell) (site : String) (h : validate g sh = .crash site) :
    spacesVerdict g sh = .overflow ∧ site = spacesCrash :=
  have ⟨_, _, _, hr⟩ := crash_reason g sh site h
  hr

/-- **The model of validation crashes only where the native stack is modelled**: a `.crash` outcome is
the exhaustion of `stackFuel` in `check_subword_spaces`, nothing else. -/
theorem validate_crash_only_stack (g : Grammar) (sh : Shell) (s : String) (h : validate g sh = .crash s) :
    s = "check_subword_spaces: unbounded recursion through cyclic definitions" :=
  (crash_real g sh s h).2

theorem accepted_real (g : Grammar) (sh : Shell) (v : Valid) (h : validate g sh = .ok v) :
    ∃ n, WellFormed g sh n ∧ ¬ Cyclic g sh ∧ spacesVerdict g sh = .fine :=
  reason_of_verdict h

/-- **A grammar without mistakes is accepted.**  Besides the conditions on the shell-specific definitions
themselves the code has one more (`ShadowedPlainAreCmds`): a plain definition of a name that is also defined
for the target shell must be an external command. -/
theorem validate_ok_of_clean (g : Grammar) (sh : Shell) (n : String) (h : OneCommand g n)
    (hs : '/' ∉ n.toList) (hd : ((plainDefs g).map (·.1)).Nodup)
    (hc : ∀ x ∈ specDefs g, isCmdSpec x = true) (hk : ∀ x ∈ specDefs g, knownShell x = true)
    (hds : TargetSpecsDistinct g sh) (hsh : ShadowedPlainAreCmds g sh)
    (hcyc : ¬ ∃ u, Reach (depGraph (tableOf sh g)) u u) (hsp : spacesVerdict g sh = .fine) :
    ∃ v, validate g sh = .ok v :=
  (verdict_spaces g sh n ⟨h, hs, hd, ⟨hc, hk, hds⟩, hsh⟩ hcyc).2.2 hsp

theorem shadowed_of_no_target_specs (g : Grammar) (sh : Shell) (h : targetSpecNames g sh = []) :
    ShadowedPlainAreCmds g sh := by
  intro p _ hm
  rw [h] at hm
  cases hm

/-- `cmd <X>; <X> ::= foo; <X@bash> ::= {{{ x }}};` -/
def shadowExample : Grammar :=
  [.call "cmd" default (.nonterm "X" 0 default),
   .defn "X" default none (.term "foo" none 0 default),
   .defn "X" default (some ("bash", default)) (.cmd "x" false 0 default)]

theorem shadowExample_rejected :
    validate shadowExample .bash = .err .nonCommandSpecialization [default] := by rfl

theorem shadowExample_table :
    tableOf .bash shadowExample = [("X", (default, .term "foo" none 0 default))] := by rfl

theorem shadowExample_order : resolutionOrder (tableOf .bash shadowExample) = .ok [] := by
  rw [shadowExample_table]
  unfold resolutionOrder
  have hg : depGraph [("X", ((default : Span), Expr.term "foo" none 0 default))] = [("X", [])] := by rfl
  have hr : roots [("X", [])] = ["X"] := by decide
  simp only [hg, hr]
  simp [resolutionOrder.loop, dfs, dfs.go, AList.get?]

theorem shadowExample_acyclic : ¬ ∃ u, Reach (depGraph (tableOf .bash shadowExample)) u u := by
  intro ⟨u, hu⟩
  exact cycle_no_order _ u hu [] shadowExample_order

theorem shadowExample_spaces : spacesVerdict shadowExample .bash = .fine := by
  unfold spacesVerdict expandedTable
  rw [shadowExample_order]
  rfl

/-- **Without `ShadowedPlainAreCmds` the statement is false**: the example meets every other condition of
`validate_ok_of_clean`, all its shell-specific definitions are commands, and it is rejected with
"non-command specialization" (so that diagnostic is not only given for a shell-specific definition that is
not a command either). -/
theorem clean_needs_shadowed :
    OneCommand shadowExample "cmd" ∧ '/' ∉ "cmd".toList ∧ ((plainDefs shadowExample).map (·.1)).Nodup ∧
    (∀ x ∈ specDefs shadowExample, isCmdSpec x = true) ∧ (∀ x ∈ specDefs shadowExample, knownShell x = true) ∧
    TargetSpecsDistinct shadowExample .bash ∧
    (¬ ∃ u, Reach (depGraph (tableOf .bash shadowExample)) u u) ∧
    spacesVerdict shadowExample .bash = .fine ∧
    validate shadowExample .bash = .err .nonCommandSpecialization [default] ∧
    ¬ ShadowedPlainAreCmds shadowExample .bash := by
  have hp : plainDefs shadowExample = [("X", default, .term "foo" none 0 default)] := rfl
  refine ⟨⟨by decide, by decide⟩, by decide, by decide, by decide, by decide,
    by unfold TargetSpecsDistinct; decide, shadowExample_acyclic,
    shadowExample_spaces, shadowExample_rejected, ?_⟩
  intro h
  have := h ("X", default, .term "foo" none 0 default) (by rw [hp]; exact List.mem_cons_self)
    (by unfold targetSpecNames; decide)
  exact Bool.noConfusion this

/-! ### the order among the mistakes of the shell-specific definitions is the source order -/

/-- `cmd a; <X@tcsh> ::= foo;`: not a command *and* an unknown shell — reported as "non-command
specialization" (so `rejects_unknown_shell` needs its hypothesis that all of them are commands) -/
theorem order_example_noncmd_first :
    validate [.call "cmd" default (.term "a" none 0 default),
              .defn "X" default (some ("tcsh", default)) (.term "foo" none 0 default)] .bash =
      .err .nonCommandSpecialization [default] := by rfl

/-- `cmd a; <X@bash> ::= {{{ a }}}; <X@bash> ::= {{{ b }}}; <Y@tcsh> ::= {{{ c }}};`: the second definition
of `X` for bash stands before the unknown shell, so for bash the verdict is "duplicate", for zsh it is
"unknown shell" (so `rejects_unknown_shell` needs `TargetSpecsDistinct`) -/
theorem order_example_source_order :
    let g : Grammar := [.call "cmd" default (.term "a" none 0 default),
      .defn "X" ⟨1, 1, 1⟩ (some ("bash", default)) (.cmd "a" false 0 default),
      .defn "X" ⟨2, 2, 2⟩ (some ("bash", default)) (.cmd "b" false 0 default),
      .defn "Y" default (some ("tcsh", ⟨3, 3, 3⟩)) (.cmd "c" false 0 default)]
    validate g .bash = .err .duplicateNonterminalDefinition [⟨1, 1, 1⟩, ⟨2, 2, 2⟩] ∧
    validate g .zsh = .err .unknownShell [⟨3, 3, 3⟩] := by
  exact ⟨by rfl, by rfl⟩

/-! ### the conditions exclude each other -/

theorem oneCommand_excludes (g : Grammar) (n : String) (h : OneCommand g n) :
    callsOf g ≠ [] ∧ (∀ a b, a ∈ callNames g → b ∈ callNames g → a = b) ∧ ∀ m, OneCommand g m → m = n := by
  refine ⟨h.1, ?_, ?_⟩
  · intro a b ha hb
    obtain ⟨x, hx, rfl⟩ := List.mem_map.mp ha
    obtain ⟨y, hy, rfl⟩ := List.mem_map.mp hb
    rw [h.2 x hx, h.2 y hy]
  · intro m hm
    obtain ⟨x, hx⟩ := List.exists_mem_of_ne_nil _ h.1
    rw [← hm.2 x hx, h.2 x hx]

/-- **The specification of the diagnostics of `from_grammar`.**  For every grammar and target shell the
outcome is decided by the first of these conditions that holds, in the order the code checks them:

1. no call variant → "missing call variants";
2. two call variants for different command names → "varying command names";
3. the command name contains `/` → "invalid command name";
4. two plain definitions of one name → "duplicate nonterminal definition";
5. the shell-specific definitions, in source order, up to the first one with a mistake (`FirstSpecFault`):
   its right-hand side is not an external command → "non-command specialization" at that right-hand side;
   else its shell is unknown → "unknown shell" at the shell name;
   else (it defines for the target shell a name already defined for it) → "duplicate nonterminal definition";
6. a plain definition of a name that is also defined for the target shell is not an external command →
   "non-command specialization";
7. the definitions refer to each other in a circle → "nonterminal definitions cycle";
8. `check_subword_spaces` finds adjacent literals → "spaces inside a word" with its spans; exhausts the
   stack → crash; else the grammar is accepted.

`validate_cases` says that every grammar meets the premises of one of the clauses. -/
theorem validate_verdict (g : Grammar) (sh : Shell) :
    (callsOf g = [] → validate g sh = .err .missingCallVariants []) ∧
    (∀ a b, a ∈ callNames g → b ∈ callNames g → a ≠ b →
      ∃ spans, validate g sh = .err .varyingCommandNames spans) ∧
    (∀ n, OneCommand g n → '/' ∈ n.toList → ∃ sp, validate g sh = .err .invalidCommandName [sp]) ∧
    (∀ n, OneCommand g n → '/' ∉ n.toList → ¬ ((plainDefs g).map (·.1)).Nodup →
      ∃ spans, validate g sh = .err .duplicateNonterminalDefinition spans) ∧
    (∀ n, OneCommand g n → '/' ∉ n.toList → ((plainDefs g).map (·.1)).Nodup →
      ∀ x, FirstSpecFault g sh x →
        (isCmdSpec x = false → validate g sh = .err .nonCommandSpecialization [x.2.2.2.2.span]) ∧
        (isCmdSpec x = true → knownShell x = false → validate g sh = .err .unknownShell [x.2.2.2.1]) ∧
        (isCmdSpec x = true → knownShell x = true →
          ∃ spans, validate g sh = .err .duplicateNonterminalDefinition spans)) ∧
    (∀ n, OneCommand g n → '/' ∉ n.toList → ((plainDefs g).map (·.1)).Nodup → SpecsClean g sh →
      ¬ ShadowedPlainAreCmds g sh → ∃ spans, validate g sh = .err .nonCommandSpecialization spans) ∧
    (∀ n, WellFormed g sh n → Cyclic g sh → ∃ spans, validate g sh = .err .nonterminalDefinitionsCycle spans) ∧
    (∀ n, WellFormed g sh n → ¬ Cyclic g sh →
      ∀ l r t, spacesVerdict g sh = .bad l r t → validate g sh = .err .subwordSpaces (l :: r :: t)) ∧
    (∀ n, WellFormed g sh n → ¬ Cyclic g sh → spacesVerdict g sh = .overflow →
      validate g sh = .crash spacesCrash) ∧
    (∀ n, WellFormed g sh n → ¬ Cyclic g sh → spacesVerdict g sh = .fine → ∃ v, validate g sh = .ok v) :=
  ⟨verdict_no_variant g sh,
   verdict_varying g sh,
   verdict_slash g sh,
   verdict_dup_plain g sh,
   verdict_spec_fault g sh,
   verdict_shadow g sh,
   verdict_cycle g sh,
   fun n w hc => (verdict_spaces g sh n w hc).1,
   fun n w hc => (verdict_spaces g sh n w hc).2.1,
   fun n w hc => (verdict_spaces g sh n w hc).2.2⟩

theorem validate_verdict_exhaustive (g : Grammar) (sh : Shell) :
    callsOf g = [] ∨
    (∃ a b, a ∈ callNames g ∧ b ∈ callNames g ∧ a ≠ b) ∨
    (∃ n, OneCommand g n ∧ '/' ∈ n.toList) ∨
    (∃ n, OneCommand g n ∧ '/' ∉ n.toList ∧ ¬ ((plainDefs g).map (·.1)).Nodup) ∨
    (∃ n, OneCommand g n ∧ '/' ∉ n.toList ∧ ((plainDefs g).map (·.1)).Nodup ∧ ∃ x, FirstSpecFault g sh x) ∨
    (∃ n, OneCommand g n ∧ '/' ∉ n.toList ∧ ((plainDefs g).map (·.1)).Nodup ∧ SpecsClean g sh ∧
      ¬ ShadowedPlainAreCmds g sh) ∨
    (∃ n, WellFormed g sh n ∧ Cyclic g sh) ∨
    (∃ n, WellFormed g sh n ∧ ¬ Cyclic g sh) := by
  cases validate_cases g sh with
  | noVariant h _ => exact .inl h
  | varying a b ha hb hab _ _ => exact .inr (.inl ⟨a, b, ha, hb, hab⟩)
  | slash n h hs _ _ => exact .inr (.inr (.inl ⟨n, h, hs⟩))
  | dupPlain n h hs hd _ _ => exact .inr (.inr (.inr (.inl ⟨n, h, hs, hd⟩)))
  | specNotCommand n h hs hd x hf _ _ => exact .inr (.inr (.inr (.inr (.inl ⟨n, h, hs, hd, x, hf⟩))))
  | specUnknownShell n h hs hd x hf _ _ _ => exact .inr (.inr (.inr (.inr (.inl ⟨n, h, hs, hd, x, hf⟩))))
  | specDuplicate n h hs hd x hf _ _ _ _ => exact .inr (.inr (.inr (.inr (.inl ⟨n, h, hs, hd, x, hf⟩))))
  | shadowNotCommand n h hs hd hc hsh _ _ => exact .inr (.inr (.inr (.inr (.inr (.inl ⟨n, h, hs, hd, hc, hsh⟩)))))
  | cycle n w hcyc _ _ => exact .inr (.inr (.inr (.inr (.inr (.inr (.inl ⟨n, w, hcyc⟩))))))
  | spacesBad n w hcyc _ _ _ _ _ => exact .inr (.inr (.inr (.inr (.inr (.inr (.inr ⟨n, w, hcyc⟩))))))
  | spacesOverflow n w hcyc _ _ => exact .inr (.inr (.inr (.inr (.inr (.inr (.inr ⟨n, w, hcyc⟩))))))
  | accepted n w hcyc _ _ _ => exact .inr (.inr (.inr (.inr (.inr (.inr (.inr ⟨n, w, hcyc⟩))))))

end Complgen.Check
