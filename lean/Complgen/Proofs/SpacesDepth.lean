/-
C06 / C08: the recursion depth of `check_subword_spaces` (`Check.spaces`), i.e. when the modelled exhaustion
of the native stack (`SpacesResult.overflow`, the only crash of the whole pipeline model) is impossible.
Against a table none of whose bodies refers to a name of the table (`ClosedTable`, which the expanded table is
after a successful `resolutionOrder`) the fuel `spacesDepthIn T e` suffices; without `ClosedTable` no fuel does
(`loop_overflow`).  The measure is not `Check.depth`: `spacesL` spends a unit per list item passed as well
(`flat6_overflow`).  The `no_crash` theorems need no hypothesis on cycles: those are diagnosed, not crashes.
-/
import Complgen.Proofs.Verdict
import Complgen.Proofs.BuildTerm
namespace Complgen.Check

mutual
/-- the fuel `spaces` uses up on an expression, lookups not counted: one unit per node on the way down
**and one unit per list item passed** (`spacesL` hands the rest of a list on with the fuel decreased) -/
def spacesDepth : Expr → Nat
  | .seq cs _ | .alt cs _ | .fb cs _ => spacesDepthL cs + 1
  | .opt c _ | .many1 c _ | .sub c _ _ => spacesDepth c + 1
  | _ => 1
def spacesDepthL : ExprL → Nat
  | .nil => 1
  | .cons e es => max (spacesDepth e) (spacesDepthL es) + 1
end

mutual
/-- the references `spaces` comes across (it does not enter description nodes) -/
def walked : Expr → List String
  | .nonterm n _ _ => [n]
  | .seq cs _ | .alt cs _ | .fb cs _ => walkedL cs
  | .opt c _ | .many1 c _ | .sub c _ _ => walked c
  | _ => []
def walkedL : ExprL → List String
  | .nil => []
  | .cons e es => walked e ++ walkedL es
end

theorem adjacent_ne_overflow : ∀ (es : ExprL) (tr : List Span), adjacent es tr ≠ .overflow
  | .nil, tr => by simp [adjacent]
  | .cons a .nil, tr => by simp [adjacent]
  | .cons a (.cons b rest), tr => by
    have ih := adjacent_ne_overflow (.cons b rest) tr
    rw [adjacent]
    split
    · simp
    · exact ih

mutual
/-- the fuel `spaces` uses up on an expression against a table whose bodies lead to no further lookup:
a reference with an entry costs one unit plus what the body costs -/
def spacesDepthIn (T : AList (Span × Expr)) : Expr → Nat
  | .nonterm n _ _ =>
    match T.get? n with
    | none => 1
    | some v => spacesDepth v.2 + 1
  | .seq cs _ | .alt cs _ | .fb cs _ => spacesDepthInL T cs + 1
  | .opt c _ | .many1 c _ | .sub c _ _ => spacesDepthIn T c + 1
  | _ => 1
def spacesDepthInL (T : AList (Span × Expr)) : ExprL → Nat
  | .nil => 1
  | .cons e es => max (spacesDepthIn T e) (spacesDepthInL T es) + 1
end

mutual
theorem spaces_fuel (T : AList (Span × Expr)) : ∀ (e : Expr) (fuel : Nat) (tr : List Span) (w : Bool),
    (∀ n ∈ walked e, ∀ sp b, T.get? n = some (sp, b) →
      ∀ f tr w, spacesDepth b ≤ f → spaces T f b tr w ≠ .overflow) →
    spacesDepthIn T e ≤ fuel → spaces T fuel e tr w ≠ .overflow
  | .term .. | .cmd .. | .dd .. => fun fuel _ _ _ hf => by
    obtain ⟨f, rfl, _⟩ := fuel_pos hf
    simp [spaces]
  | .nonterm n _ s => fun fuel tr w hl hf => by
    cases hg : T.get? n with
    | none =>
      obtain ⟨f, rfl, _⟩ := fuel_pos (d := 0) (by simpa only [spacesDepthIn, hg] using hf)
      simp [spaces, hg]
    | some v =>
      obtain ⟨f, rfl, hf'⟩ := fuel_pos (by simpa only [spacesDepthIn, hg] using hf)
      simp only [spaces, hg]
      exact hl n (List.mem_singleton_self n) v.1 v.2 hg f _ w hf'
  | .sub c _ _ => fun fuel tr _ hl hf => by
    obtain ⟨f, rfl, hf'⟩ := fuel_pos hf
    simp only [spaces]; exact spaces_fuel T c f tr true hl hf'
  | .opt c _ | .many1 c _ => fun fuel tr w hl hf => by
    obtain ⟨f, rfl, hf'⟩ := fuel_pos hf
    simp only [spaces]; exact spaces_fuel T c f tr w hl hf'
  | .alt cs _ | .fb cs _ => fun fuel tr w hl hf => by
    obtain ⟨f, rfl, hf'⟩ := fuel_pos hf
    simp only [spaces]; exact spacesL_fuel T cs f tr w hl hf'
  | .seq cs _ => fun fuel tr w hl hf => by
    obtain ⟨f, rfl, hf'⟩ := fuel_pos hf
    have ih := spacesL_fuel T cs f tr w hl hf'
    simp only [spaces]
    cases hr : spacesL T f cs tr w with
    | overflow => exact absurd hr ih
    | bad l r t => simp
    | fine =>
      simp only
      split
      · exact adjacent_ne_overflow cs tr
      · simp
theorem spacesL_fuel (T : AList (Span × Expr)) : ∀ (es : ExprL) (fuel : Nat) (tr : List Span) (w : Bool),
    (∀ n ∈ walkedL es, ∀ sp b, T.get? n = some (sp, b) →
      ∀ f tr w, spacesDepth b ≤ f → spaces T f b tr w ≠ .overflow) →
    spacesDepthInL T es ≤ fuel → spacesL T fuel es tr w ≠ .overflow
  | .nil => fun fuel _ _ _ hf => by
    obtain ⟨f, rfl, _⟩ := fuel_pos hf
    simp [spacesL]
  | .cons e es => fun fuel tr w hl hf => by
    obtain ⟨f, rfl, hf'⟩ := fuel_pos hf
    have h1 := spaces_fuel T e f tr w (fun n hn => hl n (List.mem_append_left _ hn))
      (Nat.le_trans (Nat.le_max_left ..) hf')
    have h2 := spacesL_fuel T es f tr w (fun n hn => hl n (List.mem_append_right _ hn))
      (Nat.le_trans (Nat.le_max_right ..) hf')
    simp only [spacesL]
    cases hr : spaces T f e tr w with
    | overflow => exact absurd hr h1
    | bad l r t => simp
    | fine => exact h2
end

/-- one more node, resp. one more list item, on both sides of a bound that holds up to `B` -/
theorem succ_le_add {a b B : Nat} (h : a ≤ b + B) : a + 1 ≤ b + 1 + B := by omega
theorem max_succ_le_add {a a' b b' B : Nat} (h1 : a ≤ a' + B) (h2 : b ≤ b' + B) :
    max a b + 1 ≤ max a' b' + 1 + B := by omega

mutual
theorem spacesDepthIn_le_add (T : AList (Span × Expr)) (B : Nat) : ∀ e : Expr,
    (∀ n ∈ walked e, ∀ sp b, T.get? n = some (sp, b) → spacesDepth b ≤ B) →
    spacesDepthIn T e ≤ spacesDepth e + B
  | .term .. | .cmd .. | .dd .. => fun _ => Nat.le_add_right 1 B
  | .nonterm n _ _ => fun h => by
    cases hg : T.get? n with
    | none => simp only [spacesDepthIn, spacesDepth, hg]; omega
    | some v =>
      have := h n (List.mem_singleton_self n) v.1 v.2 hg
      simp only [spacesDepthIn, spacesDepth, hg]; omega
  | .sub c _ _ | .opt c _ | .many1 c _ => fun h => succ_le_add (spacesDepthIn_le_add T B c h)
  | .seq cs _ | .alt cs _ | .fb cs _ => fun h => succ_le_add (spacesDepthInL_le_add T B cs h)
theorem spacesDepthInL_le_add (T : AList (Span × Expr)) (B : Nat) : ∀ es : ExprL,
    (∀ n ∈ walkedL es, ∀ sp b, T.get? n = some (sp, b) → spacesDepth b ≤ B) →
    spacesDepthInL T es ≤ spacesDepthL es + B
  | .nil => fun _ => Nat.le_add_right 1 B
  | .cons e es => fun h =>
    max_succ_le_add (spacesDepthIn_le_add T B e fun n hn => h n (List.mem_append_left _ hn))
      (spacesDepthInL_le_add T B es fun n hn => h n (List.mem_append_right _ hn))
end

theorem spaces_closed (T : AList (Span × Expr)) : ∀ (e : Expr) (fuel : Nat) (tr : List Span) (w : Bool),
    (∀ n ∈ walked e, T.get? n = none) → spacesDepth e ≤ fuel → spaces T fuel e tr w ≠ .overflow :=
  fun e fuel tr w hc hf =>
    spaces_fuel T e fuel tr w (fun n hn _ _ hg => nomatch (hc n hn).symm.trans hg)
      (Nat.le_trans (spacesDepthIn_le_add T 0 e fun n hn _ _ hg => nomatch (hc n hn).symm.trans hg) hf)

theorem spacesL_closed (T : AList (Span × Expr)) : ∀ (es : ExprL) (fuel : Nat) (tr : List Span) (w : Bool),
    (∀ n ∈ walkedL es, T.get? n = none) → spacesDepthL es ≤ fuel → spacesL T fuel es tr w ≠ .overflow :=
  fun es fuel tr w hc hf =>
    spacesL_fuel T es fuel tr w (fun n hn _ _ hg => nomatch (hc n hn).symm.trans hg)
      (Nat.le_trans (spacesDepthInL_le_add T 0 es fun n hn _ _ hg => nomatch (hc n hn).symm.trans hg) hf)

/-- lookups cannot loop: no body of the table leads `spaces` to a name that has an entry -/
def ClosedTable (T : AList (Span × Expr)) : Prop :=
  ∀ n sp b, T.get? n = some (sp, b) → ∀ m ∈ walked b, T.get? m = none

/-- **The recursion depth of `check_subword_spaces`**: against a table whose bodies refer to no name of the
table, `spaces` does not run out of fuel when it is given `spacesDepthIn T e`. -/
theorem spaces_no_overflow (T : AList (Span × Expr)) (hT : ClosedTable T) :
    ∀ (e : Expr) (fuel : Nat) (tr : List Span) (w : Bool),
      spacesDepthIn T e ≤ fuel → spaces T fuel e tr w ≠ .overflow :=
  fun e fuel tr w => spaces_fuel T e fuel tr w fun n _ sp b hg f tr w => spaces_closed T b f tr w (hT n sp b hg)

theorem spacesL_no_overflow (T : AList (Span × Expr)) (hT : ClosedTable T) :
    ∀ (es : ExprL) (fuel : Nat) (tr : List Span) (w : Bool),
      spacesDepthInL T es ≤ fuel → spacesL T fuel es tr w ≠ .overflow :=
  fun es fuel tr w => spacesL_fuel T es fuel tr w fun n _ sp b hg f tr w => spaces_closed T b f tr w (hT n sp b hg)

/-! ### the cruder form: depth of the expression plus the largest depth of a body -/

def bodyDepth (D : AList (Span × Expr)) (m : String) : Nat :=
  match D.get? m with
  | some v => spacesDepth v.2
  | none => 0

def tableDepth (T : AList (Span × Expr)) : Nat := ((T.map (·.1)).map (bodyDepth T)).foldl max 0

theorem le_foldl_max : ∀ (l : List Nat) (a : Nat), a ≤ l.foldl max a ∧ ∀ x ∈ l, x ≤ l.foldl max a
  | [], a => ⟨Nat.le_refl _, fun _ h => by cases h⟩
  | y :: ys, a => by
    have ih := le_foldl_max ys (max a y)
    simp only [List.foldl_cons]
    refine ⟨by have := ih.1; omega, ?_⟩
    intro x hx
    rcases List.mem_cons.mp hx with rfl | hx
    · have := ih.1; omega
    · exact ih.2 x hx

theorem foldl_max_le (B : Nat) : ∀ (l : List Nat) (a : Nat), a ≤ B → (∀ x ∈ l, x ≤ B) → l.foldl max a ≤ B
  | [], a, ha, _ => ha
  | y :: ys, a, ha, h => by
    simp only [List.foldl_cons]
    apply foldl_max_le B ys
    · have := h y (by simp); omega
    · exact fun x hx => h x (List.mem_cons_of_mem _ hx)

theorem le_tableDepth (T : AList (Span × Expr)) (n : String) (sp : Span) (b : Expr)
    (h : T.get? n = some (sp, b)) : spacesDepth b ≤ tableDepth T := by
  unfold tableDepth
  apply (le_foldl_max _ 0).2
  refine List.mem_map.mpr ⟨n, List.mem_map.mpr ⟨(n, (sp, b)), mem_of_get?_some T n (sp, b) h, rfl⟩, ?_⟩
  unfold bodyDepth
  rw [h]

theorem tableDepth_le (T : AList (Span × Expr)) (B : Nat)
    (h : ∀ n sp b, T.get? n = some (sp, b) → spacesDepth b ≤ B) : tableDepth T ≤ B := by
  unfold tableDepth
  apply foldl_max_le B _ 0 (Nat.zero_le _)
  intro x hx
  obtain ⟨n, _, rfl⟩ := List.mem_map.mp hx
  unfold bodyDepth
  cases hg : T.get? n with
  | none => exact Nat.zero_le _
  | some v => exact h n v.1 v.2 hg

theorem spacesDepthIn_le (T : AList (Span × Expr)) : ∀ e : Expr,
    spacesDepthIn T e ≤ spacesDepth e + tableDepth T :=
  fun e => spacesDepthIn_le_add T _ e fun n _ sp b hg => le_tableDepth T n sp b hg

theorem spacesDepthInL_le (T : AList (Span × Expr)) : ∀ es : ExprL,
    spacesDepthInL T es ≤ spacesDepthL es + tableDepth T :=
  fun es => spacesDepthInL_le_add T _ es fun n _ sp b hg => le_tableDepth T n sp b hg

/-! ### the expanded table: no body refers to a name of the table; depths add up along the order -/

mutual
theorem walked_sub_names : ∀ (e : Expr) (n : String), n ∈ walked e → n ∈ Spec.names e
  | .term .. | .cmd .. | .dd .. => fun _ h => nomatch h
  | .nonterm .. => fun _ h => h
  | .sub c _ _ | .opt c _ | .many1 c _ => walked_sub_names c
  | .seq cs _ | .alt cs _ | .fb cs _ => walkedL_sub_names cs
theorem walkedL_sub_names : ∀ (es : ExprL) (n : String), n ∈ walkedL es → n ∈ Spec.namesL es
  | .nil => fun _ h => nomatch h
  | .cons e es => fun n h =>
    List.mem_append.mpr ((List.mem_append.mp h).imp (walked_sub_names e n) (walkedL_sub_names es n))
end

mutual
theorem walked_resolve (acc : AList (Span × Expr)) (Q : String → Prop) : ∀ (e : Expr) (u : AList Span),
    (∀ n ∈ walked e, ∀ sp b, acc.get? n = some (sp, b) → ∀ k ∈ walked b, Q k) →
    (∀ n ∈ walked e, acc.get? n = none → Q n) → ∀ k ∈ walked (resolve acc e u).1, Q k
  | .term .. | .cmd .. | .dd .. => fun _ _ _ _ h => nomatch h
  | .nonterm n l s => fun u h1 h2 k h => by
    cases hg : acc.get? n with
    | none =>
      simp only [resolve, hg, walked, List.mem_singleton] at h
      subst h
      exact h2 k (List.mem_singleton_self k) hg
    | some v =>
      simp only [resolve, hg] at h
      exact h1 n (List.mem_singleton_self n) v.1 v.2 hg k h
  | .sub c _ _ | .opt c _ | .many1 c _ => walked_resolve acc Q c
  | .seq cs _ | .alt cs _ | .fb cs _ => walkedL_resolve acc Q cs
theorem walkedL_resolve (acc : AList (Span × Expr)) (Q : String → Prop) : ∀ (es : ExprL) (u : AList Span),
    (∀ n ∈ walkedL es, ∀ sp b, acc.get? n = some (sp, b) → ∀ k ∈ walked b, Q k) →
    (∀ n ∈ walkedL es, acc.get? n = none → Q n) → ∀ k ∈ walkedL (resolveL acc es u).1, Q k
  | .nil => fun _ _ _ _ h => nomatch h
  | .cons e es => fun u h1 h2 k h =>
    match List.mem_append.mp h with
    | .inl h => walked_resolve acc Q e u (fun n hn => h1 n (List.mem_append_left _ hn))
        (fun n hn => h2 n (List.mem_append_left _ hn)) k h
    | .inr h => walkedL_resolve acc Q es _ (fun n hn => h1 n (List.mem_append_right _ hn))
        (fun n hn => h2 n (List.mem_append_right _ hn)) k h
end

mutual
theorem spacesDepth_resolve (acc : AList (Span × Expr)) (B : Nat) : ∀ (e : Expr) (u : AList Span),
    (∀ n ∈ walked e, ∀ sp b, acc.get? n = some (sp, b) → spacesDepth b ≤ B) →
    spacesDepth (resolve acc e u).1 ≤ spacesDepth e + B
  | .term .. | .cmd .. | .dd .. => fun _ _ => Nat.le_add_right 1 B
  | .nonterm n l s => fun u h1 => by
    cases hg : acc.get? n with
    | none => simp only [resolve, hg, spacesDepth]; omega
    | some v =>
      have := h1 n (List.mem_singleton_self n) v.1 v.2 hg
      simp only [resolve, hg, spacesDepth]
      omega
  | .sub c _ _ | .opt c _ | .many1 c _ => fun u h1 => succ_le_add (spacesDepth_resolve acc B c u h1)
  | .seq cs _ | .alt cs _ | .fb cs _ => fun u h1 => succ_le_add (spacesDepthL_resolve acc B cs u h1)
theorem spacesDepthL_resolve (acc : AList (Span × Expr)) (B : Nat) : ∀ (es : ExprL) (u : AList Span),
    (∀ n ∈ walkedL es, ∀ sp b, acc.get? n = some (sp, b) → spacesDepth b ≤ B) →
    spacesDepthL (resolveL acc es u).1 ≤ spacesDepthL es + B
  | .nil => fun _ _ => Nat.le_add_right 1 B
  | .cons e es => fun u h1 =>
    max_succ_le_add (spacesDepth_resolve acc B e u fun n hn => h1 n (List.mem_append_left _ hn))
      (spacesDepthL_resolve acc B es (resolve acc e u).2 fun n hn => h1 n (List.mem_append_right _ hn))
end

def sumDepth (D : AList (Span × Expr)) (P : List String) : Nat := (P.map (bodyDepth D)).sum

theorem sumDepth_cons (D : AList (Span × Expr)) (n : String) (P : List String) :
    sumDepth D (n :: P) = bodyDepth D n + sumDepth D P := rfl

/-- what the expansion loop maintains besides `LoopInv` -/
structure DepthInv (D : AList (Span × Expr)) (P : List String) (acc : AList (Span × Expr)) : Prop where
  keys : ∀ k, (acc.get? k).isSome = (D.get? k).isSome
  rest : ∀ m, m ∉ P → acc.get? m = D.get? m
  good : ∀ m ∈ P, ∀ sp b, acc.get? m = some (sp, b) →
    (∀ k ∈ walked b, D.get? k = none) ∧ spacesDepth b ≤ sumDepth D P

theorem depthInv_step (D : AList (Span × Expr)) (P : List String) (acc : AList (Span × Expr)) (u : AList Span)
    (n : String) (inv : DepthInv D P acc) (hn : n ∉ P) (hkey : (D.get? n).isSome = true)
    (hdeps : ∀ m ∈ depNames D n, m ∈ P) : DepthInv D (n :: P) (resStep (acc, u) n).1 := by
  cases hD : D.get? n with
  | none => rw [hD] at hkey; cases hkey
  | some v =>
    obtain ⟨s, e⟩ := v
    have hacc : acc.get? n = some (s, e) := by rw [inv.rest n hn, hD]
    have hdep : ∀ m ∈ walked e, ∀ sp b, acc.get? m = some (sp, b) → m ∈ P := by
      intro m hm sp b hg
      apply hdeps
      unfold depNames
      rw [hD]
      refine List.mem_filter.mpr ⟨walked_sub_names e m hm, ?_⟩
      apply contains_of_get?_isSome
      rw [← inv.keys m, hg]; rfl
    obtain ⟨hkeys, hrest⟩ := resStep_keys_rest D P acc u n s e inv.keys inv.rest hacc
    refine ⟨hkeys, hrest, ?_⟩
    · intro m hm sp b hg
      rw [resStep_get? acc u n s e hacc] at hg
      by_cases hmn : m = n
      · subst hmn
        simp only [if_true, Option.some.injEq, Prod.mk.injEq] at hg
        obtain ⟨_, rfl⟩ := hg
        refine ⟨?_, ?_⟩
        · apply walked_resolve acc (fun k => D.get? k = none) e u
          · intro m' hm' sp' b' hg'
            exact (inv.good m' (hdep m' hm' sp' b' hg') sp' b' hg').1
          · intro m' _ hg'
            have := inv.keys m'
            rw [hg'] at this
            cases hd : D.get? m' with
            | none => rfl
            | some x => rw [hd] at this; cases this
        · have := spacesDepth_resolve acc (sumDepth D P) e u (by
            intro m' hm' sp' b' hg'
            exact (inv.good m' (hdep m' hm' sp' b' hg') sp' b' hg').2)
          rw [sumDepth_cons]
          unfold bodyDepth
          rw [hD]
          exact this
      · simp only [hmn, if_false] at hg
        have hmP : m ∈ P := by
          rcases List.mem_cons.mp hm with h | h
          · exact absurd h hmn
          · exact h
        have := inv.good m hmP sp b hg
        refine ⟨this.1, ?_⟩
        rw [sumDepth_cons]
        omega

theorem depthInv_fold (D : AList (Span × Expr)) :
    ∀ (order P : List String) (acc : AList (Span × Expr)) (u : AList Span), DepthInv D P acc →
      Sched D P order → DepthInv D (order.reverse ++ P) (order.foldl resStep (acc, u)).1 :=
  resFold_sched D (DepthInv D) (depthInv_step D)

theorem depthInv_init (D : AList (Span × Expr)) (P0 : List String) (hleaf : ∀ m ∈ P0, depNames D m = []) :
    DepthInv D P0 D := by
  refine ⟨fun _ => rfl, fun _ _ => rfl, ?_⟩
  intro m hm sp b hg
  refine ⟨?_, ?_⟩
  · intro k hk
    have hcl := hleaf m hm
    unfold depNames at hcl
    rw [hg] at hcl
    simp only at hcl
    cases hc : D.contains k with
    | false => exact get?_none_of_contains_false D k hc
    | true =>
      have : k ∈ (Spec.names b).filter fun m => D.contains m :=
        List.mem_filter.mpr ⟨walked_sub_names b k hk, hc⟩
      rw [hcl] at this; cases this
  · have := le_sum_map (bodyDepth D) m P0 hm
    unfold bodyDepth at this
    rw [hg] at this
    exact this

theorem sumDepth_le (L : AList (Span × Expr)) (P : List String) (hnd : P.Nodup) :
    sumDepth L P ≤ (L.map fun x => spacesDepth x.2.2).sum := by
  have hw : bodyDepth L = lookupW (fun v : Span × Expr => spacesDepth v.2) L := by
    funext m
    unfold bodyDepth AList.get? lookupW
    cases L.find? (·.1 == m) <;> rfl
  unfold sumDepth
  rw [hw]
  exact sum_lookupW_le _ L P hnd

theorem expandedTable_inv (g : Grammar) (sh : Shell) (order : List String)
    (hro : resolutionOrder (tableOf sh g) = .ok order) :
    DepthInv (tableOf sh g) (order.reverse ++ leafKeys (tableOf sh g)) (expandedTable g sh) ∧
    (∀ m, (tableOf sh g).contains m = true → m ∈ order.reverse ++ leafKeys (tableOf sh g)) ∧
    (((plainDefs g).map (·.1)).Nodup → (order.reverse ++ leafKeys (tableOf sh g)).Nodup) := by
  obtain ⟨hsched, hleaf, hall, hPnd⟩ := schedule_of_order sh g order hro
  refine ⟨?_, hall, hPnd⟩
  unfold expandedTable
  rw [hro]
  exact depthInv_fold _ order _ _ [] (depthInv_init _ _ hleaf) hsched

theorem expandedTable_entry (g : Grammar) (sh : Shell) (order : List String)
    (hro : resolutionOrder (tableOf sh g) = .ok order) (n : String) (sp : Span) (b : Expr)
    (hg : (expandedTable g sh).get? n = some (sp, b)) :
    (∀ k ∈ walked b, (tableOf sh g).get? k = none) ∧
      spacesDepth b ≤ sumDepth (tableOf sh g) (order.reverse ++ leafKeys (tableOf sh g)) := by
  obtain ⟨inv, hall, _⟩ := expandedTable_inv g sh order hro
  have hk := inv.keys n
  rw [hg] at hk
  exact inv.good n (hall n (contains_of_get?_isSome _ n hk.symm)) sp b hg

/-- **After the dependency-ordered expansion no body of the table refers to a name of the table.** -/
theorem expandedTable_closed (g : Grammar) (sh : Shell) (order : List String)
    (hro : resolutionOrder (tableOf sh g) = .ok order) : ClosedTable (expandedTable g sh) := by
  obtain ⟨inv, _, _⟩ := expandedTable_inv g sh order hro
  intro n sp b hg k hk
  have h1 := (expandedTable_entry g sh order hro n sp b hg).1 k hk
  have h2 := inv.keys k
  rw [h1] at h2
  cases hd : (expandedTable g sh).get? k with
  | none => rfl
  | some x => rw [hd] at h2; cases h2

/-- **The depths add up along a chain of definitions**: an expanded body is at most as deep as the sum of the
depths of the (specialised) definitions. -/
theorem tableDepth_expanded_le (g : Grammar) (sh : Shell) (order : List String)
    (hro : resolutionOrder (tableOf sh g) = .ok order) (hnodup : ((plainDefs g).map (·.1)).Nodup) :
    tableDepth (expandedTable g sh) ≤ ((tableOf sh g).map fun x => spacesDepth x.2.2).sum := by
  obtain ⟨_, _, hPnd⟩ := expandedTable_inv g sh order hro
  apply tableDepth_le
  intro n sp b hg
  exact Nat.le_trans (expandedTable_entry g sh order hro n sp b hg).2 (sumDepth_le _ _ (hPnd hnodup))

/-! ### the bound in terms of the statements of the grammar -/

mutual
theorem spacesDepth_applyPick (sh : Shell) (g : Grammar) : ∀ e : Expr,
    spacesDepth (applyPick sh g e) = spacesDepth e
  | .term .. | .cmd .. | .dd .. => rfl
  | .nonterm n l s => by unfold applyPick; cases Spec.pick sh g n <;> rfl
  | .sub c _ _ | .opt c _ | .many1 c _ => congrArg (· + 1) (spacesDepth_applyPick sh g c)
  | .seq cs _ | .alt cs _ | .fb cs _ => congrArg (· + 1) (spacesDepthL_applyPick sh g cs)
theorem spacesDepthL_applyPick (sh : Shell) (g : Grammar) : ∀ es : ExprL,
    spacesDepthL (applyPickL sh g es) = spacesDepthL es
  | .nil => rfl
  | .cons e es => by
    simp only [applyPickL, spacesDepthL, spacesDepth_applyPick sh g e, spacesDepthL_applyPick sh g es]
end

theorem size_pos : ∀ e : Expr, 1 ≤ Spec.size e
  | .term .. | .cmd .. | .nonterm .. => Nat.le_refl 1
  | .dd .. | .sub .. | .opt .. | .many1 .. | .seq .. | .alt .. | .fb .. => Nat.le_add_left 1 _

/-- a node adds one to the depth and one to the size; a list of `n` items is `n + 1` deep -/
theorem node_le_size {d s : Nat} (h : d ≤ 2 * s) : d + 1 ≤ 2 * (s + 1) := by omega
theorem list_le_size {d s : Nat} (h : d ≤ 2 * s + 1) : d + 1 ≤ 2 * (s + 1) := by omega

mutual
theorem spacesDepth_le_size : ∀ e : Expr, spacesDepth e ≤ 2 * Spec.size e
  | .term .. | .cmd .. | .nonterm .. => Nat.le_succ 1
  | .dd .. => node_le_size (Nat.zero_le _)
  | .sub c _ _ | .opt c _ | .many1 c _ => node_le_size (spacesDepth_le_size c)
  | .seq cs _ | .alt cs _ | .fb cs _ => list_le_size (spacesDepthL_le_size cs)
theorem spacesDepthL_le_size : ∀ es : ExprL, spacesDepthL es ≤ 2 * Spec.sizeL es + 1
  | .nil => Nat.le_refl 1
  | .cons e es => by
    have h0 := size_pos e
    have h1 := spacesDepth_le_size e
    have h2 := spacesDepthL_le_size es
    simp only [spacesDepthL, Spec.sizeL]
    omega
end

theorem spacesDepth_distribute (e : Expr) : spacesDepth (distribute e) ≤ 2 * Spec.size e := by
  have h1 := spacesDepth_le_size (distribute e)
  have h2 : Spec.size (distribute e) ≤ Spec.size e := size_distr e none
  omega

theorem tableOf_depths (g : Grammar) (sh : Shell) :
    ((tableOf sh g).map fun x => spacesDepth x.2.2).sum =
      ((plainDefs g).map fun x => spacesDepth (distribute x.2.2)).sum := by
  unfold tableOf
  simp [List.map_map, Function.comp_def, spacesDepth_applyPick]

theorem topSpecialised_depth (g : Grammar) (sh : Shell) :
    spacesDepth (topSpecialised g sh) = spacesDepth (distribute (topExpr g)) :=
  spacesDepth_applyPick sh g _

theorem depths_le_size (g : Grammar) (sh : Shell) :
    spacesDepth (topSpecialised g sh) + ((tableOf sh g).map fun x => spacesDepth x.2.2).sum ≤
      2 * (g.map stmtSize).sum + 2 := by
  rw [topSpecialised_depth, tableOf_depths]
  have h1 := spacesDepth_distribute (topExpr g)
  have h2 := size_topExpr g
  have h3 := total_bound g
  have h4 := sum_map_le (fun x : String × Span × Expr => spacesDepth (distribute x.2.2))
    (fun x => 2 * Spec.size x.2.2) (plainDefs g) (fun x _ => spacesDepth_distribute x.2.2)
  omega

/-- the sharpest form: one level of lookups into the expanded table -/
theorem spacesVerdict_ne_overflow_in (g : Grammar) (sh : Shell) (order : List String)
    (hro : resolutionOrder (tableOf sh g) = .ok order)
    (h : spacesDepthIn (expandedTable g sh) (topSpecialised g sh) ≤ stackFuel) :
    spacesVerdict g sh ≠ .overflow :=
  spaces_no_overflow _ (expandedTable_closed g sh order hro) _ _ _ _ h

/-- **When the definitions do not refer to each other in a circle, `check_subword_spaces` does not exhaust
the (modelled) stack** if the depth of the specialised top expression plus the largest depth of an expanded
definition is at most `stackFuel` (no further constant: the units are those of `spacesDepth`). -/
theorem spacesVerdict_ne_overflow (g : Grammar) (sh : Shell) (order : List String)
    (hro : resolutionOrder (tableOf sh g) = .ok order)
    (h : spacesDepth (topSpecialised g sh) + tableDepth (expandedTable g sh) ≤ stackFuel) :
    spacesVerdict g sh ≠ .overflow :=
  spaces_no_overflow _ (expandedTable_closed g sh order hro) _ _ _ _ (Nat.le_trans (spacesDepthIn_le _ _) h)

theorem spacesVerdict_ne_overflow_of_defs (g : Grammar) (sh : Shell) (order : List String)
    (hro : resolutionOrder (tableOf sh g) = .ok order) (hnodup : ((plainDefs g).map (·.1)).Nodup)
    (h : spacesDepth (distribute (topExpr g)) +
      ((plainDefs g).map fun x => spacesDepth (distribute x.2.2)).sum ≤ stackFuel) :
    spacesVerdict g sh ≠ .overflow := by
  apply spacesVerdict_ne_overflow g sh order hro
  have := tableDepth_expanded_le g sh order hro hnodup
  rw [tableOf_depths] at this
  rw [topSpecialised_depth]
  omega

theorem spacesVerdict_ne_overflow_of_size (g : Grammar) (sh : Shell) (order : List String)
    (hro : resolutionOrder (tableOf sh g) = .ok order) (hnodup : ((plainDefs g).map (·.1)).Nodup)
    (h : 2 * (g.map stmtSize).sum + 2 ≤ stackFuel) :
    spacesVerdict g sh ≠ .overflow := by
  apply spacesVerdict_ne_overflow g sh order hro
  have h1 := tableDepth_expanded_le g sh order hro hnodup
  have h2 := depths_le_size g sh
  omega

theorem crash_presupposes (g : Grammar) (sh : Shell) (site : String) (h : validate g sh = .crash site) :
    (∃ order, resolutionOrder (tableOf sh g) = .ok order) ∧ ((plainDefs g).map (·.1)).Nodup ∧
      spacesVerdict g sh = .overflow := by
  obtain ⟨n, w, hcyc, hsp, _⟩ := crash_reason g sh site h
  exact ⟨resolutionOrder_ok_of_acyclic g sh hcyc, w.plain, hsp⟩

/-- **Validation does not crash on grammars whose nesting stays below the modelled stack.** -/
theorem validate_no_crash_of_depth (g : Grammar) (sh : Shell)
    (h : spacesDepth (topSpecialised g sh) + tableDepth (expandedTable g sh) ≤ stackFuel) :
    ∀ site, validate g sh ≠ .crash site := by
  intro site hc
  obtain ⟨⟨order, hro⟩, _, hsp⟩ := crash_presupposes g sh site hc
  exact spacesVerdict_ne_overflow g sh order hro h hsp

theorem validate_no_crash_of_depthIn (g : Grammar) (sh : Shell)
    (h : spacesDepthIn (expandedTable g sh) (topSpecialised g sh) ≤ stackFuel) :
    ∀ site, validate g sh ≠ .crash site := by
  intro site hc
  obtain ⟨⟨order, hro⟩, _, hsp⟩ := crash_presupposes g sh site hc
  exact spacesVerdict_ne_overflow_in g sh order hro h hsp

theorem validate_no_crash_of_defs (g : Grammar) (sh : Shell)
    (h : spacesDepth (distribute (topExpr g)) +
      ((plainDefs g).map fun x => spacesDepth (distribute x.2.2)).sum ≤ stackFuel) :
    ∀ site, validate g sh ≠ .crash site := by
  intro site hc
  obtain ⟨⟨order, hro⟩, hnd, hsp⟩ := crash_presupposes g sh site hc
  exact spacesVerdict_ne_overflow_of_defs g sh order hro hnd h hsp

theorem validate_no_crash_of_size (g : Grammar) (sh : Shell) (h : (g.map stmtSize).sum ≤ 9999) :
    ∀ site, validate g sh ≠ .crash site := by
  intro site hc
  obtain ⟨⟨order, hro⟩, hnd, hsp⟩ := crash_presupposes g sh site hc
  exact spacesVerdict_ne_overflow_of_size g sh order hro hnd (by unfold stackFuel; omega) hsp

/-! ### the bound is not vacuous: `.overflow` does occur -/

/-- a literal under five `[...]` -/
def nested5 : Expr :=
  .opt (.opt (.opt (.opt (.opt (.term "a" none 0 default) default) default) default) default) default

theorem nested5_depth : spacesDepth nested5 = 6 := by decide

/-- with fuel 3 (and still with 5) the walk over an expression nested five deep runs out of fuel; 6, the
value of `spacesDepth`, is the least fuel that suffices -/
theorem nested5_overflow :
    spaces [] 3 nested5 [] false = .overflow ∧ spaces [] 5 nested5 [] false = .overflow ∧
    spaces [] 6 nested5 [] false = .fine := ⟨rfl, rfl, rfl⟩

/-- six literals side by side: `a | b | c | d | e | f` -/
def flat6 : Expr :=
  .alt (.cons (.term "a" none 0 default) (.cons (.term "b" none 0 default) (.cons (.term "c" none 0 default)
    (.cons (.term "d" none 0 default) (.cons (.term "e" none 0 default) (.cons (.term "f" none 0 default) .nil))))))
    default

/-- **The model's walk pays for width as well as for nesting**: `spacesL` passes the rest of a list on with the
fuel decreased, so six alternatives side by side (`Check.depth` 3) need fuel 8.  Hence the bounds above are
stated in `spacesDepth`, not in `Check.depth`. -/
theorem flat6_overflow :
    depth flat6 = 3 ∧ spacesDepth flat6 = 8 ∧
    spaces [] 7 flat6 [] false = .overflow ∧ spaces [] 8 flat6 [] false = .fine :=
  ⟨by decide, by decide, rfl, rfl⟩

/-- `<X> ::= [[a]];` -/
def tableX : AList (Span × Expr) :=
  [("X", (default, .opt (.opt (.term "a" none 0 default) default) default))]

/-- a lookup costs one unit plus the body: `<X>` against `tableX` needs `spacesDepthIn = 4` -/
theorem lookup_overflow :
    spacesDepthIn tableX (.nonterm "X" 0 default) = 4 ∧
    spaces tableX 3 (.nonterm "X" 0 default) [] false = .overflow ∧
    spaces tableX 4 (.nonterm "X" 0 default) [] false = .fine :=
  ⟨by decide, rfl, rfl⟩

/-- `<X> ::= <X>;` -/
def tableLoop : AList (Span × Expr) := [("X", (default, .nonterm "X" 0 default))]

/-- **The hypothesis `ClosedTable` is needed**: against a table whose body refers to its own name no fuel
suffices (this is the "unbounded recursion through cyclic definitions" the crash message speaks of; validation
never gets there, because it reports the cycle first). -/
theorem loop_overflow : ∀ (fuel : Nat) (tr : List Span) (w : Bool),
    spaces tableLoop fuel (.nonterm "X" 0 default) tr w = .overflow
  | 0, _, _ => by simp [spaces]
  | fuel + 1, tr, w => by
    have hg : tableLoop.get? "X" = some (default, .nonterm "X" 0 default) := rfl
    simp only [spaces, hg]
    exact loop_overflow fuel _ w

theorem tableLoop_not_closed : ¬ ClosedTable tableLoop := by
  intro h
  have hg : tableLoop.get? "X" = some (default, .nonterm "X" 0 default) := rfl
  have := h "X" default (.nonterm "X" 0 default) hg "X" (by simp [walked])
  rw [hg] at this
  cases this

end Complgen.Check

namespace Complgen
namespace Pipeline
open Complgen.Check

theorem compile_no_crash_of_validate (g : Grammar) (sh : Shell)
    (h : ∀ site, validate g sh ≠ .crash site) : ∀ σ site, compile σ g sh ≠ .crash site :=
  fun σ site hc => h site (compile_crash_validate σ g sh site hc)

/-- **The model of the whole pipeline never crashes on grammars whose nesting stays below the modelled
stack.** -/
theorem compile_no_crash_of_depth (g : Grammar) (sh : Shell)
    (h : spacesDepth (topSpecialised g sh) + tableDepth (expandedTable g sh) ≤ stackFuel) :
    ∀ σ site, compile σ g sh ≠ .crash site :=
  compile_no_crash_of_validate g sh (validate_no_crash_of_depth g sh h)

theorem compile_no_crash_of_depthIn (g : Grammar) (sh : Shell)
    (h : spacesDepthIn (expandedTable g sh) (topSpecialised g sh) ≤ stackFuel) :
    ∀ σ site, compile σ g sh ≠ .crash site :=
  compile_no_crash_of_validate g sh (validate_no_crash_of_depthIn g sh h)

theorem compile_no_crash_of_defs (g : Grammar) (sh : Shell)
    (h : spacesDepth (distribute (topExpr g)) +
      ((plainDefs g).map fun x => spacesDepth (distribute x.2.2)).sum ≤ stackFuel) :
    ∀ σ site, compile σ g sh ≠ .crash site :=
  compile_no_crash_of_validate g sh (validate_no_crash_of_defs g sh h)

/-- a grammar whose statements have at most 9999 nodes in total is compiled (or rejected with a
diagnostic) without a crash, for every schedule -/
theorem compile_no_crash_of_size (g : Grammar) (sh : Shell) (h : (g.map stmtSize).sum ≤ 9999) :
    ∀ σ site, compile σ g sh ≠ .crash site :=
  compile_no_crash_of_validate g sh (validate_no_crash_of_size g sh h)

/-- the hypotheses can be evaluated: e.g. the three-statement grammar of `Proofs/Verdict.lean` -/
theorem shadowExample_no_crash : ∀ σ site, compile σ shadowExample .bash ≠ .crash site :=
  compile_no_crash_of_size shadowExample .bash (by decide)

end Pipeline
end Complgen
