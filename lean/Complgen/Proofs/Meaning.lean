/-
C02 / C15: what the model of check.rs's validation returns is the meaning the specification gives
the grammar (`Spec.meaningAt`): choice of definitions, dependency-ordered expansion, words, levels.
-/
import Complgen.Proofs.Expand
namespace Complgen.Check

mutual
theorem refsAcc_keys_sub : ∀ (e : Expr) (acc : AList Span) (k : String),
    k ∈ (refsAcc e acc).map (·.1) → k ∈ acc.map (·.1) ∨ k ∈ Spec.names e
  | .term .. | .cmd .. | .dd .. => fun _ _ => .inl
  | .nonterm n _ s => fun acc k h => ((insert_keys acc n s k).mp h).imp_right List.mem_singleton.mpr
  | .sub c _ _ | .opt c _ | .many1 c _ => refsAcc_keys_sub c
  | .seq cs _ | .alt cs _ | .fb cs _ => refsAccL_keys_sub cs
theorem refsAccL_keys_sub : ∀ (es : ExprL) (acc : AList Span) (k : String),
    k ∈ (refsAccL es acc).map (·.1) → k ∈ acc.map (·.1) ∨ k ∈ Spec.namesL es
  | .nil => fun _ _ => .inl
  | .cons e es => fun acc k h =>
    match refsAccL_keys_sub es _ k h with
    | .inl h => (refsAcc_keys_sub e acc k h).imp_right (List.mem_append_left _)
    | .inr h => .inr (List.mem_append_right _ h)
end

mutual
/-- the converse needs `NoDD`: a description node hides a reference from `refsAcc` -/
theorem refsAcc_keys : ∀ (e : Expr) (acc : AList Span) (k : String), NoDD e = true →
    (k ∈ acc.map (·.1) ∨ k ∈ Spec.names e) → k ∈ (refsAcc e acc).map (·.1)
  | .term .. | .cmd .. => fun _ _ _ h => h.elim id (nomatch ·)
  | .dd .. => fun _ _ hd => nomatch hd
  | .nonterm n _ s => fun acc k _ h => (insert_keys acc n s k).mpr (h.imp_right List.eq_of_mem_singleton)
  | .sub c _ _ | .opt c _ | .many1 c _ => refsAcc_keys c
  | .seq cs _ | .alt cs _ | .fb cs _ => refsAccL_keys cs
theorem refsAccL_keys : ∀ (es : ExprL) (acc : AList Span) (k : String), NoDDL es = true →
    (k ∈ acc.map (·.1) ∨ k ∈ Spec.namesL es) → k ∈ (refsAccL es acc).map (·.1)
  | .nil => fun _ _ _ h => h.elim id (nomatch ·)
  | .cons e es => fun acc k hd h => by
    have ⟨hd1, hd2⟩ := noDDL_cons.mp hd
    apply refsAccL_keys es _ k hd2
    rcases h with h | h
    · exact .inl (refsAcc_keys e acc k hd1 (.inl h))
    · exact (List.mem_append.mp h).imp_left fun h => refsAcc_keys e acc k hd1 (.inr h)
end

mutual
theorem noDD_applyPick (sh : Shell) (g : Grammar) : ∀ e : Expr, NoDD (applyPick sh g e) = NoDD e
  | .term .. | .cmd .. | .dd .. => rfl
  | .nonterm n l s => by unfold applyPick; cases Spec.pick sh g n <;> rfl
  | .sub c _ _ | .opt c _ | .many1 c _ => noDD_applyPick sh g c
  | .seq cs _ | .alt cs _ | .fb cs _ => noDDL_applyPick sh g cs
theorem noDDL_applyPick (sh : Shell) (g : Grammar) : ∀ es : ExprL, NoDDL (applyPickL sh g es) = NoDDL es
  | .nil => rfl
  | .cons e es => by simp only [applyPickL, NoDDL, noDD_applyPick sh g e, noDDL_applyPick sh g es]
end

def hasDeps (D : AList (Span × Expr)) (v : String) : Bool := !(((depGraph D).get? v).getD []).isEmpty

theorem kids_of_not_hasDeps (D : AList (Span × Expr)) (v : String) (h : hasDeps D v = false) :
    kids (depGraph D) v = [] := by
  unfold hasDeps at h
  unfold kids
  have : ((depGraph D).get? v).getD [] = [] := by simpa using h
  rw [this]; rfl

theorem isSome_of_hasDeps (D : AList (Span × Expr)) (v : String) (h : hasDeps D v = true) :
    (D.get? v).isSome = true := by
  unfold hasDeps at h
  rw [depGraph_get] at h
  cases hg : D.get? v with
  | none => rw [hg] at h; simp at h
  | some x => rfl

theorem depNames_sub_kids (sh : Shell) (g : Grammar) (n m : String)
    (h : m ∈ depNames (tableOf sh g) n) : m ∈ kids (depGraph (tableOf sh g)) n := by
  unfold depNames at h
  have htab := tableOf_get sh g n
  cases hf : (plainDefs g).find? (·.1 == n) with
  | none => rw [hf] at htab; simp only [Option.map_none] at htab; rw [htab] at h; cases h
  | some x =>
    rw [hf] at htab
    simp only [Option.map_some] at htab
    rw [htab] at h
    simp only at h
    obtain ⟨hm, hc⟩ := List.mem_filter.mp h
    unfold kids
    rw [depGraph_get, htab]
    simp only [Option.map_some, Option.getD_some]
    have hdd : NoDD (applyPick sh g (distribute x.2.2)) = true := by
      rw [noDD_applyPick]; exact distribute_noDD _
    have := refsAcc_keys (applyPick sh g (distribute x.2.2)) [] m hdd (.inr hm)
    obtain ⟨p, hp, hpe⟩ := List.mem_map.mp this
    refine List.mem_map.mpr ⟨p, List.mem_filter.mpr ⟨hp, ?_⟩, hpe⟩
    show (tableOf sh g).contains p.1 = true
    rw [hpe]; exact hc

/-- the names of definitions that refer to no definition: `resolutionOrder` leaves them out of its order -/
def leafKeys (D : AList (Span × Expr)) : List String := (D.map (·.1)).filter fun v => !hasDeps D v

theorem sched_of_closed (sh : Shell) (g : Grammar) :
    ∀ (R2 R1 : List String), (R1 ++ R2).Nodup → Closed (depGraph (tableOf sh g)) (R1 ++ R2) →
      Sched (tableOf sh g) ((R1.filter (hasDeps (tableOf sh g))).reverse ++ leafKeys (tableOf sh g))
        (R2.filter (hasDeps (tableOf sh g)))
  | [], R1, _, _ => by simp [Sched]
  | n :: R2, R1, hnd, hcl => by
    have hnd' : ((R1 ++ [n]) ++ R2).Nodup := by simpa using hnd
    have hcl' : Closed (depGraph (tableOf sh g)) ((R1 ++ [n]) ++ R2) := by simpa using hcl
    have ih := sched_of_closed sh g R2 (R1 ++ [n]) hnd' hcl'
    by_cases hn : hasDeps (tableOf sh g) n = true
    · simp only [List.filter_cons, hn, if_true]
      refine ⟨?_, isSome_of_hasDeps _ n hn, ?_, ?_⟩
      · intro hmem
        rcases List.mem_append.mp hmem with h1 | h1
        · have h2 : n ∈ R1 := (List.mem_filter.mp (List.mem_reverse.mp h1)).1
          have := (List.nodup_append.mp hnd).2.2 n h2 n (by simp)
          exact this rfl
        · have := (List.mem_filter.mp h1).2
          simp [hn] at this
      · intro m hm
        have hk := depNames_sub_kids sh g n m hm
        have hpre : m ∈ R1 := hcl R1 n R2 rfl m hk
        by_cases hmd : hasDeps (tableOf sh g) m = true
        · exact List.mem_append_left _ (List.mem_reverse.mpr (List.mem_filter.mpr ⟨hpre, hmd⟩))
        · apply List.mem_append_right
          unfold leafKeys
          refine List.mem_filter.mpr ⟨?_, by simpa using hmd⟩
          have := kidsIn_depGraph (tableOf sh g) n m hk
          rw [verts_depGraph] at this
          exact this
      · have : (List.filter (hasDeps (tableOf sh g)) (R1 ++ [n])).reverse ++ leafKeys (tableOf sh g) =
            n :: ((List.filter (hasDeps (tableOf sh g)) R1).reverse ++ leafKeys (tableOf sh g)) := by
          simp [List.filter_append, hn]
        rw [this] at ih
        exact ih
    · have hn' : hasDeps (tableOf sh g) n = false := by simpa using hn
      simp only [List.filter_cons, hn', Bool.false_eq_true, if_false]
      have : (List.filter (hasDeps (tableOf sh g)) (R1 ++ [n])) = List.filter (hasDeps (tableOf sh g)) R1 := by
        simp [List.filter_append, hn']
      rw [this] at ih
      exact ih

theorem tableOf_keys (sh : Shell) (g : Grammar) : (tableOf sh g).map (·.1) = (plainDefs g).map (·.1) := by
  unfold tableOf; simp [List.map_map, Function.comp_def]

theorem schedule_of_order (sh : Shell) (g : Grammar) (order : List String)
    (hro : resolutionOrder (tableOf sh g) = .ok order) :
    Sched (tableOf sh g) (leafKeys (tableOf sh g)) order ∧
    (∀ m ∈ leafKeys (tableOf sh g), depNames (tableOf sh g) m = []) ∧
    (∀ m, (tableOf sh g).contains m = true → m ∈ order.reverse ++ leafKeys (tableOf sh g)) ∧
    (((plainDefs g).map (·.1)).Nodup → (order.reverse ++ leafKeys (tableOf sh g)).Nodup) := by
  obtain ⟨R, hord, hRnd, hRcl, hRall⟩ := resolutionOrder_ok (tableOf sh g) order hro
  have hsched := sched_of_closed sh g R [] (by simpa using hRnd) (by simpa using hRcl)
  simp only [List.filter_nil, List.reverse_nil, List.nil_append] at hsched
  have hord' : order = R.filter (hasDeps (tableOf sh g)) := hord
  rw [← hord'] at hsched
  refine ⟨hsched, ?_, ?_, ?_⟩
  · intro m hm
    have hnd : hasDeps (tableOf sh g) m = false := by
      have := (List.mem_filter.mp hm).2
      simpa using this
    cases hdn : depNames (tableOf sh g) m with
    | nil => rfl
    | cons a as =>
      have : a ∈ kids (depGraph (tableOf sh g)) m := depNames_sub_kids sh g m a (by rw [hdn]; simp)
      rw [kids_of_not_hasDeps _ m hnd] at this
      cases this
  · intro m hm
    have hkey := (contains_iff_key _ m).mp hm
    have hR : m ∈ R := hRall m (by rw [verts_depGraph]; exact hkey)
    by_cases hmd : hasDeps (tableOf sh g) m = true
    · exact List.mem_append_left _ (List.mem_reverse.mpr (by rw [hord']; exact List.mem_filter.mpr ⟨hR, hmd⟩))
    · exact List.mem_append_right _ (List.mem_filter.mpr ⟨hkey, by simpa using hmd⟩)
  · intro hnodup
    apply List.nodup_append.mpr
    refine ⟨?_, ?_, ?_⟩
    · rw [hord']; exact (List.reverse_perm _).nodup_iff.mpr (hRnd.filter _)
    · unfold leafKeys; rw [tableOf_keys]; exact hnodup.filter _
    · intro a ha b hb e
      subst e
      have h1 : hasDeps (tableOf sh g) a = true := by
        rw [hord'] at ha
        exact (List.mem_filter.mp (List.mem_reverse.mp ha)).2
      have h2 := (List.mem_filter.mp hb).2
      simp [h1] at h2

/-- **Dependency-ordered expansion = the specification's expansion.**  When `resolutionOrder`
succeeds on the table of (specialised) definitions, folding `resStep` over the order it returns and
resolving an expression against the result gives `Spec.expand` of that expression, for every fuel
from `depth e + Σ 2·size(definition)` on. -/
theorem expansion_correct (sh : Shell) (g : Grammar) (order : List String)
    (hnodup : ((plainDefs g).map (·.1)).Nodup) (hro : resolutionOrder (tableOf sh g) = .ok order)
    (e : Expr) (hd : NoDD e = true) (u u' : AList Span) (k : Nat)
    (hk : depth e + ((plainDefs g).map fun x => 2 * Spec.size x.2.2).sum ≤ k) :
    Spec.expand sh g k e = (resolve (order.foldl resStep (tableOf sh g, u)).1 (applyPick sh g e) u').1 := by
  obtain ⟨hsched, hleaf, hall, hPnd⟩ := schedule_of_order sh g order hro
  have hinv := resFold_loop sh g order _ (tableOf sh g) u (loop_init sh g _ hleaf) hsched
  have hb := Hb_le g _ (hPnd hnodup)
  exact loop_top sh g _ _ hinv hall e hd u' k (by omega)

theorem specFold_table (g : Grammar) (sh : Shell) (specs : AList UserSpec) (fbs : AList String)
    (h : getSpecializations g sh = .ok (specs, fbs)) :
    ∀ (l : List (String × Span × Expr)) (acc : AList (Span × Expr) × Book), SameCmds specs acc.2 →
      (l.foldl (specStep sh fbs ((plainDefs g).map (·.1))) acc).1 =
        acc.1 ++ l.map (fun x => (x.1, (x.2.1, applyPick sh g x.2.2))) ∧
      SameCmds specs (l.foldl (specStep sh fbs ((plainDefs g).map (·.1))) acc).2
  | [], acc, hb => by simp [hb]
  | x :: rest, acc, hb => by
    have hx := specialize_eq_applyPick g sh specs fbs h x.2.2 acc.2 hb
    have ih := specFold_table g sh specs fbs h rest (specStep sh fbs ((plainDefs g).map (·.1)) acc x) (by
      unfold specStep; exact hx.2)
    simp only [List.foldl_cons]
    refine ⟨?_, ih.2⟩
    rw [ih.1]
    unfold specStep
    simp only [hx.1, List.map_cons, List.append_assoc, List.singleton_append]

/-- `defsD`, `r1`, `r2` as in `finishValidate_ok` -/
theorem specialised_table (g : Grammar) (sh : Shell) (specs : AList UserSpec) (fbs : AList String)
    (hgs : getSpecializations g sh = .ok (specs, fbs)) (defsD : AList (Span × Expr))
    (r1 : AList (Span × Expr) × Book) (r2 : Expr × Book)
    (hD : ((plainDefs g).map fun x => (x.1, x.2.1, distribute x.2.2)) = defsD)
    (hr1 : defsD.foldl (specStep sh fbs (defsD.map (·.1))) ([], ⟨specs, defsD.map fun x => (x.1, x.2.1)⟩) = r1)
    (hr2 : specialize sh fbs (defsD.map (·.1)) (distribute (topExpr g)) r1.2 = r2) :
    r1.1 = tableOf sh g ∧ r2.1 = topSpecialised g sh := by
  have hdefined : defsD.map (·.1) = (plainDefs g).map (·.1) := by
    rw [← hD]; simp only [List.map_map, Function.comp_def]
  rw [hdefined] at hr1 hr2
  have hf1 := specFold_table g sh specs fbs hgs defsD ([], ⟨specs, defsD.map fun x => (x.1, x.2.1)⟩) fun _ => rfl
  rw [hr1] at hf1
  have hx2 := specialize_eq_applyPick g sh specs fbs hgs (distribute (topExpr g)) r1.2 hf1.2
  rw [hr2] at hx2
  refine ⟨?_, hx2.1⟩
  rw [hf1.1, ← hD]
  simp only [tableOf, List.nil_append, List.map_map, Function.comp_def]

/-- the message of the one crash of the model: the panic that stands for the native stack running out in
`check_subword_spaces` (`finishValidate`, Model/Check.lean) -/
def spacesCrash : String := "check_subword_spaces: unbounded recursion through cyclic definitions"

/-- `U` and `US` are the unused-bookkeeping the specialisation leaves; neither the verdict nor the expression
depends on them. -/
theorem finishValidate_eq (g : Grammar) (sh : Shell) (command : String) (specs : AList UserSpec)
    (fbs : AList String) (hgs : getSpecializations g sh = .ok (specs, fbs)) :
    ∃ U US : AList Span,
      finishValidate g sh command (plainDefs g) specs fbs =
        match resolutionOrder (tableOf sh g) with
        | .error spans => .err .nonterminalDefinitionsCycle spans
        | .ok order =>
          let r3 := order.foldl resStep (tableOf sh g, U)
          match spaces r3.1 stackFuel (topSpecialised g sh) [] false with
          | .overflow => .crash spacesCrash
          | .bad l r trace => .err .subwordSpaces (l :: r :: trace)
          | .fine =>
            let r4 := resolve r3.1 (topSpecialised g sh) r3.2
            .ok { command, expr := propagate (collapse r4.1) 0, undefined := refs (propagate (collapse r4.1) 0),
                  unused := r4.2, unusedSpecs := US } := by
  obtain ⟨h1, h2⟩ := specialised_table g sh specs fbs hgs _ _ _ rfl rfl rfl
  unfold finishValidate
  simp only [h1, h2]
  exact ⟨_, _, rfl⟩

/-! ### the fuel of `Spec.meaningAt` as a sum over the statements, and that it is enough -/

theorem sizeL_ofList : ∀ l : List Expr, Spec.sizeL (ExprL.ofList l) = (l.map Spec.size).sum
  | [] => rfl
  | e :: es => by simp [ExprL.ofList, Spec.sizeL, sizeL_ofList es]

def stmtSize : Stmt → Nat
  | .call _ _ e => Spec.size e
  | .defn _ _ _ e => Spec.size e

theorem foldl_total (g : Grammar) : ∀ a : Nat,
    g.foldl (fun n st => n + match st with | .call _ _ e => Spec.size e | .defn _ _ _ e => Spec.size e) a =
      a + (g.map stmtSize).sum := by
  induction g with
  | nil => intro a; simp
  | cons st rest ih =>
    intro a
    simp only [List.foldl_cons, List.map_cons, List.sum_cons]
    rw [ih]
    cases st <;> simp [stmtSize] <;> omega

theorem meaningAt_eq (sp : Span) (g : Grammar) (sh : Shell) :
    Spec.meaningAt sp g sh =
      Spec.label (Spec.words (Spec.expand sh g (2 * (g.map stmtSize).sum + 8) (Spec.distr (Spec.topOf sp g) none).1)) 0 := by
  unfold Spec.meaningAt
  simp only
  generalize hA : List.foldl _ 0 g = A
  have hA' : A = (g.map stmtSize).sum := by rw [← hA]; exact (foldl_total g 0).trans (Nat.zero_add _)
  rw [hA']

theorem total_bound : ∀ g : Grammar,
    ((plainDefs g).map fun x => 2 * Spec.size x.2.2).sum + 2 * ((callsOf g).map fun c => Spec.size c.2.2).sum ≤
      2 * (g.map stmtSize).sum
  | [] => Nat.le_refl 0
  | .call n s e :: rest => by
    have ih := total_bound rest
    rw [plainDefs_cons_call, callsOf_cons_call]
    simp only [List.map_cons, List.sum_cons, stmtSize]
    omega
  | .defn n s none e :: rest => by
    have ih := total_bound rest
    rw [plainDefs_cons_defn_none, callsOf_cons_defn]
    simp only [List.map_cons, List.sum_cons, stmtSize]
    omega
  | .defn n s (some p) e :: rest => by
    have ih := total_bound rest
    rw [plainDefs_cons_defn_some, callsOf_cons_defn]
    simp only [List.map_cons, List.sum_cons, stmtSize]
    omega

theorem size_topExpr (g : Grammar) : Spec.size (topExpr g) ≤ ((callsOf g).map fun c => Spec.size c.2.2).sum + 1 := by
  unfold topExpr
  split
  · rename_i n s e hc
    rw [hc]; simp
  · simp only [Spec.size, sizeL_ofList, List.map_map, Function.comp_def]
    omega

theorem fuel_enough_sum (g : Grammar) :
    depth (distribute (topExpr g)) + ((plainDefs g).map fun x => 2 * Spec.size x.2.2).sum ≤
      2 * (g.map stmtSize).sum + 8 := by
  have h1 := depth_distribute (topExpr g)
  have h2 := size_topExpr g
  have h3 := total_bound g
  omega

theorem fuel_enough (g : Grammar) :
    depth (distribute (topExpr g)) + ((plainDefs g).map fun x => 2 * Spec.size x.2.2).sum ≤
      2 * (g.foldl (fun n st => n + match st with | .call _ _ e => Spec.size e | .defn _ _ _ e => Spec.size e) 0) + 8 := by
  rw [foldl_total, Nat.zero_add]
  exact fuel_enough_sum g

/-! ### description nodes stay away -/

theorem expandL_noDD_step (sh : Shell) (g : Grammar) (k : Nat)
    (hE : ∀ e : Expr, NoDD e = true → NoDD (Spec.expand sh g k e) = true) :
    ∀ es : ExprL, NoDDL es = true → NoDDL (Spec.expandL sh g (k + 1) es) = true
  | .nil => fun _ => by simp only [Spec.expandL, NoDDL]
  | .cons e es => fun h => by
    simp only [Spec.expandL]
    exact noDDL_cons.mpr ⟨hE e (noDDL_cons.mp h).1, expandL_noDD_step sh g k hE es (noDDL_cons.mp h).2⟩

theorem expand_noDD (sh : Shell) (g : Grammar) : ∀ k : Nat,
    (∀ e : Expr, NoDD e = true → NoDD (Spec.expand sh g k e) = true) ∧
    (∀ es : ExprL, NoDDL es = true → NoDDL (Spec.expandL sh g k es) = true)
  | 0 => ⟨fun e h => by simpa only [Spec.expand] using h, fun es h => by simpa only [Spec.expandL] using h⟩
  | k + 1 => by
    have ih := expand_noDD sh g k
    refine ⟨fun e h => ?_, expandL_noDD_step sh g k ih.1⟩
    cases e with
    | term | cmd => simpa only [Spec.expand] using h
    | dd => nomatch h
    | nonterm n l s =>
      simp only [Spec.expand]
      cases Spec.pick sh g n with
      | command | anyWord => rfl
      | expr d => exact ih.1 _ (distr_eq_spec d none ▸ distr_noDD d none)
    | sub c _ _ | opt c _ | many1 c _ => simp only [Spec.expand]; exact ih.1 c h
    | seq cs _ | alt cs _ | fb cs _ => simp only [Spec.expand]; exact ih.2 cs h

mutual
theorem unword_noDD : ∀ e : Expr, NoDD e = true → NoDD (Spec.unword e) = true
  | .term .. | .cmd .. | .nonterm .. => id
  | .dd .. => fun h => nomatch h
  | .sub c _ _ | .opt c _ | .many1 c _ => unword_noDD c
  | .seq cs _ | .alt cs _ | .fb cs _ => unwordL_noDD cs
theorem unwordL_noDD : ∀ es : ExprL, NoDDL es = true → NoDDL (Spec.unwordL es) = true
  | .nil => id
  | .cons e es => fun h => noDDL_cons.mpr ((noDDL_cons.mp h).imp (unword_noDD e) (unwordL_noDD es))
end

mutual
theorem words_noDD : ∀ e : Expr, NoDD e = true → NoDD (Spec.words e) = true
  | .term .. | .cmd .. | .nonterm .. => id
  | .dd .. => fun h => nomatch h
  | .sub c _ _ => unword_noDD c
  | .opt c _ | .many1 c _ => words_noDD c
  | .seq cs _ | .alt cs _ | .fb cs _ => wordsL_noDD cs
theorem wordsL_noDD : ∀ es : ExprL, NoDDL es = true → NoDDL (Spec.wordsL es) = true
  | .nil => id
  | .cons e es => fun h => noDDL_cons.mpr ((noDDL_cons.mp h).imp (words_noDD e) (wordsL_noDD es))
end

theorem spec_calls : ∀ g : Grammar, Spec.callBodies g = (callsOf g).map (·.2.2)
  | [] => rfl
  | .call n s e :: rest => by
    rw [callsOf_cons_call, List.map_cons, ← spec_calls rest]; rfl
  | .defn n s shl e :: rest => by
    rw [callsOf_cons_defn, ← spec_calls rest]; rfl

/-- the position `check.rs` records at the node that joins several call variants -/
def topSpan (g : Grammar) : Span := ((callsOf g).head?.map (·.2.2.span)).getD default

theorem spec_top (g : Grammar) : Spec.topOf (topSpan g) g = topExpr g := by
  unfold Spec.topOf
  rw [spec_calls]
  unfold topExpr topSpan
  cases hc : callsOf g with
  | nil => rfl
  | cons c rest =>
    obtain ⟨n, s, e⟩ := c
    cases rest with
    | nil => rfl
    | cons c2 rest2 => rfl

theorem finishValidate_expr (g : Grammar) (sh : Shell) (command : String) (specs : AList UserSpec)
    (fbs : AList String) (v : Valid) (hgs : getSpecializations g sh = .ok (specs, fbs))
    (hnodup : ((plainDefs g).map (·.1)).Nodup)
    (h : finishValidate g sh command (plainDefs g) specs fbs = .ok v) :
    v.expr = Spec.meaningAt (topSpan g) g sh := by
  obtain ⟨defsD, r1, r2, order', r3, hD, hr1, hr2, hro', hr3, _, rfl⟩ :=
    finishValidate_ok g sh command _ specs fbs v h
  obtain ⟨htable, htop⟩ := specialised_table g sh specs fbs hgs defsD r1 r2 hD hr1 hr2
  rw [htable] at hro' hr3
  have hexp := expansion_correct sh g order' hnodup hro' (distribute (topExpr g)) (distribute_noDD _)
    r2.2.unused r3.2 (2 * (g.map stmtSize).sum + 8) (fuel_enough_sum g)
  rw [hr3] at hexp
  have hnd1 := (expand_noDD sh g (2 * (g.map stmtSize).sum + 8)).1 (distribute (topExpr g)) (distribute_noDD _)
  simp only
  rw [htop, topSpecialised, ← hexp, collapse_spec _ hnd1, propagate_spec _ 0 (words_noDD _ hnd1), meaningAt_eq,
    spec_top, ← distribute_eq_spec]

/-- **What validation returns is the grammar's meaning.**  For every grammar and target shell the
model of check.rs accepts, the validated expression is `Spec.meaningAt`: the call variants joined,
descriptions distributed, every reference replaced by the definition chosen for the shell and
expanded to the end, juxtapositions flattened into words, `||` levels attached. -/
theorem validate_expr_eq_meaning (g : Grammar) (sh : Shell) (v : Valid) (h : validate g sh = .ok v) :
    v.expr = Spec.meaningAt (topSpan g) g sh := by
  obtain ⟨command, specs, fbs, _, hnd, hgs, h⟩ := validate_ok_inv g sh v h
  exact finishValidate_expr g sh command specs fbs v hgs hnd h

/-! ### the position at the joining node is all that distinguishes `meaningAt` from `meaning` -/

theorem meaningAt_cases (g : Grammar) (sh : Shell) :
    (∀ sp, Spec.meaningAt sp g sh = Spec.meaning g sh) ∨ (∃ X, ∀ sp, Spec.meaningAt sp g sh = .alt X sp) := by
  -- one call variant is taken as it is; otherwise the joining node goes through every pass unchanged
  have htop : (∀ sp, Spec.topOf sp g = Spec.topOf default g) ∨ ∃ es, ∀ sp, Spec.topOf sp g = .alt es sp := by
    unfold Spec.topOf
    split
    · exact .inl fun _ => rfl
    · exact .inr ⟨_, fun _ => rfl⟩
  rcases htop with h | ⟨es, h⟩
  · exact .inl fun sp => by rw [Spec.meaning, meaningAt_eq, meaningAt_eq, h]
  · refine .inr ⟨Spec.labelL (Spec.wordsL (Spec.expandL sh g (2 * (g.map stmtSize).sum + 7)
      (Spec.distrAlt es none).1)) 0, fun sp => ?_⟩
    rw [meaningAt_eq, h]
    show Spec.label (Spec.words (Spec.expand sh g (2 * (g.map stmtSize).sum + 7 + 1)
      (.alt (Spec.distrAlt es none).1 sp))) 0 = _
    rw [Spec.expand]
    rfl

theorem names_meaningAt (sp : Span) (g : Grammar) (sh : Shell) :
    Spec.names (Spec.meaningAt sp g sh) = Spec.names (Spec.meaning g sh) := by
  rcases meaningAt_cases g sh with h | ⟨X, h⟩
  · rw [h]
  · have h2 : Spec.meaning g sh = Spec.meaningAt default g sh := rfl
    rw [h2, h sp, h default]
    simp [Spec.names]

mutual
theorem label_noDD : ∀ (e : Expr) (lvl : Nat), NoDD e = true → NoDD (Spec.label e lvl) = true
  | .term .. | .cmd .. | .nonterm .. => fun _ _ => rfl
  | .dd .. => fun _ h => nomatch h
  | .sub c _ _ | .opt c _ | .many1 c _ => label_noDD c
  | .seq cs _ | .alt cs _ => labelL_noDD cs
  | .fb cs _ => fun _ => labelFb_noDD cs 0
theorem labelL_noDD : ∀ (es : ExprL) (lvl : Nat), NoDDL es = true → NoDDL (Spec.labelL es lvl) = true
  | .nil => fun _ => id
  | .cons e es => fun lvl h =>
    noDDL_cons.mpr ((noDDL_cons.mp h).imp (label_noDD e lvl) (labelL_noDD es lvl))
theorem labelFb_noDD : ∀ (es : ExprL) (i : Nat), NoDDL es = true → NoDDL (Spec.labelFb es i) = true
  | .nil => fun _ => id
  | .cons e es => fun i h =>
    noDDL_cons.mpr ((noDDL_cons.mp h).imp (label_noDD e i) (labelFb_noDD es (i + 1)))
end

theorem meaningAt_noDD (sp : Span) (g : Grammar) (sh : Shell) : NoDD (Spec.meaningAt sp g sh) = true := by
  unfold Spec.meaningAt
  simp only
  apply label_noDD
  apply words_noDD
  apply (expand_noDD sh g _).1
  rw [← distr_eq_spec]
  exact distr_noDD _ none

theorem finishValidate_undefined (g : Grammar) (sh : Shell) (command : String) (defs0 : AList (Span × Expr))
    (specs : AList UserSpec) (fbs : AList String) (v : Valid)
    (h : finishValidate g sh command defs0 specs fbs = .ok v) : v.undefined = refs v.expr := by
  obtain ⟨_, _, _, _, _, _, _, _, _, _, _, rfl⟩ := finishValidate_ok g sh command defs0 specs fbs v h
  rfl

theorem validate_undefined (g : Grammar) (sh : Shell) (v : Valid) (h : validate g sh = .ok v) :
    v.undefined = refs v.expr := by
  obtain ⟨command, specs, fbs, _, _, _, h⟩ := validate_ok_inv g sh v h
  exact finishValidate_undefined g sh command _ specs fbs v h

/-- **The names the model reports as undefined are exactly those of the specification** (`_`, the
deliberate "any word", is left out when the warnings are printed). -/
theorem validate_undefined_eq (g : Grammar) (sh : Shell) (v : Valid) (h : validate g sh = .ok v) (n : String) :
    (n ∈ v.undefined.map (·.1) ∧ n ≠ "_") ↔ n ∈ Spec.undefinedNames sh g := by
  rw [validate_undefined g sh v h, validate_expr_eq_meaning g sh v h]
  unfold Spec.undefinedNames
  rw [List.mem_eraseDups, List.mem_filter, ← names_meaningAt (topSpan g) g sh]
  have hiff : n ∈ (refs (Spec.meaningAt (topSpan g) g sh)).map (·.1) ↔ n ∈ Spec.names (Spec.meaningAt (topSpan g) g sh) :=
    ⟨fun hm => (refsAcc_keys_sub _ [] n hm).elim (nomatch ·) id,
      fun hm => refsAcc_keys _ [] n (meaningAt_noDD _ g sh) (.inr hm)⟩
  rw [hiff]
  simp

end Complgen.Check
