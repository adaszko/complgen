/-
C11: the model's specialisation pass (`Check.specialize`, check.rs `specialize_nonterminals` with
parse.rs `get_specializations`) puts, for every nonterminal reference, exactly what `Spec.pick`
prescribes: the command of the definition for the target shell, else nothing yet when there is a
plain definition (it is expanded later), else the built-in command, else it stays "any word".
So what the pass makes of an expression is a function of the grammar alone (`applyPick`; of the call
variants: `topSpecialised`), whatever the bookkeeping of used and unused names it carries along.
-/
import Complgen.Proofs.GetSpecs
import Complgen.Spec.Den
namespace Complgen.Check

theorem ofName_iff (s : String) (sh : Shell) : Shell.ofName? s = some sh ↔ s = sh.name := by
  constructor
  · intro h
    unfold Shell.ofName? at h
    split at h <;> first | (cases h; rfl) | (cases h)
  · intro h
    subst h
    cases sh <;> rfl

def specFor (sh : Shell) (name : String) : Stmt → Option String
  | .defn n _ (some (s, _)) (.cmd c _ _ _) => if n == name && s == sh.name then some c else none
  | _ => none

def plainFor (name : String) : Stmt → Option Expr
  | .defn n _ none e => if n == name then some e else none
  | _ => none

theorem pick_unfold (sh : Shell) (g : Grammar) (name : String) :
    Spec.pick sh g name =
      match g.findSome? (specFor sh name) with
      | some c => .command c (sh == .zsh)
      | none =>
        match g.findSome? (plainFor name) with
        | some e => .expr e
        | none =>
          match (Gen.builtinTable.find? (fun r => r.1 == name && r.2.1 == sh)).map (·.2.2) with
          | some c => .command c (sh == .zsh)
          | none => .anyWord := by
  rfl

theorem plainFor_of_pick_expr (sh : Shell) (g : Grammar) (n : String) (d : Expr)
    (hp : Spec.pick sh g n = .expr d) : g.findSome? (plainFor n) = some d := by
  rw [pick_unfold] at hp
  cases h1 : g.findSome? (specFor sh n) with
  | some c => rw [h1] at hp; cases hp
  | none =>
    rw [h1] at hp
    cases h2 : g.findSome? (plainFor n) with
    | some e' => rw [h2] at hp; cases hp; rfl
    | none =>
      rw [h2] at hp
      simp only at hp
      split at hp <;> cases hp

theorem plainFor_of_pick_anyWord (sh : Shell) (g : Grammar) (n : String)
    (hp : Spec.pick sh g n = .anyWord) : g.findSome? (plainFor n) = none := by
  rw [pick_unfold] at hp
  cases h1 : g.findSome? (specFor sh n) with
  | some c => rw [h1] at hp; cases hp
  | none =>
    rw [h1] at hp
    cases h2 : g.findSome? (plainFor n) with
    | some e' => rw [h2] at hp; cases hp
    | none => rfl

theorem filterMap_filter_irrelevant {α β} (f : α → Option β) (p : α → Bool) :
    ∀ l : List α, (∀ a ∈ l, p a = false → f a = none) → (l.filter p).filterMap f = l.filterMap f
  | [], _ => rfl
  | a :: l, h => by
    have ih := filterMap_filter_irrelevant f p l (fun b hb => h b (List.mem_cons_of_mem _ hb))
    cases hp : p a with
    | true => simp [hp, List.filterMap_cons, ih]
    | false => simp [hp, h a List.mem_cons_self hp, ih]

theorem findSome?_filter_irrelevant {α β} (f : α → Option β) (p : α → Bool) (l : List α)
    (h : ∀ a ∈ l, p a = false → f a = none) : (l.filter p).findSome? f = l.findSome? f := by
  rw [← List.head?_filterMap, filterMap_filter_irrelevant f p l h, List.head?_filterMap]

theorem pick_filter (sh : Shell) (g : Grammar) (name : String) (p : Stmt → Bool)
    (hs : ∀ st ∈ g, p st = false → specFor sh name st = none)
    (hp : ∀ st ∈ g, p st = false → plainFor name st = none) :
    Spec.pick sh (g.filter p) name = Spec.pick sh g name := by
  rw [pick_unfold, pick_unfold, findSome?_filter_irrelevant _ _ g hs, findSome?_filter_irrelevant _ _ g hp]

theorem filterMap_specFor (sh : Shell) (n : String) : ∀ g : Grammar, (∀ x ∈ specDefs g, isCmdSpec x = true) →
    g.filterMap (specFor sh n) = ((specList g sh).filter (·.1 == n)).map (·.2.cmd)
  | [], _ => rfl
  | .call _ _ _ :: g, hc => filterMap_specFor sh n g hc
  | .defn _ _ none _ :: g, hc => filterMap_specFor sh n g hc
  | .defn m s (some (shn, ss)) rhs :: g, hc => by
    rw [specDefs_cons_defn_some] at hc
    have ih := filterMap_specFor sh n g fun x hx => hc x (List.mem_cons_of_mem _ hx)
    have hcx := hc _ List.mem_cons_self
    cases rhs with
    | cmd c a l sp =>
      have hft : forTarget sh (m, s, shn, ss, .cmd c a l sp) = (shn == sh.name) := by
        rw [Bool.eq_iff_iff, forTarget_iff, ofName_iff, beq_iff_eq]
      unfold specList
      rw [specDefs_cons_defn_some, List.filter_cons, hft, List.filterMap_cons]
      simp only [specFor]
      cases shn == sh.name with
      | false => simpa [specList] using ih
      | true =>
        simp only [Bool.and_true, if_true, List.map_cons, List.filter_cons, toSpec]
        cases m == n <;> simpa [specList] using ih
    | _ => exact Bool.noConfusion hcx

theorem specList_get (sh : Shell) (name : String) (g : Grammar) (hc : ∀ x ∈ specDefs g, isCmdSpec x = true) :
    ((specList g sh).get? name).map (·.cmd) = g.findSome? (specFor sh name) := by
  rw [← List.head?_filterMap, filterMap_specFor sh name g hc, List.head?_map, List.head?_filter]
  unfold AList.get?
  rw [Option.map_map]
  rfl

theorem filterMap_plainFor (n : String) : ∀ g : Grammar,
    g.filterMap (plainFor n) = ((plainDefs g).filter (·.1 == n)).map (·.2.2)
  | [] => rfl
  | .call _ _ _ :: g => filterMap_plainFor n g
  | .defn _ _ (some _) _ :: g => filterMap_plainFor n g
  | .defn m s none e :: g => by
    rw [plainDefs_cons_defn_none, List.filter_cons, List.filterMap_cons]
    simp only [plainFor]
    cases m == n <;> simp [filterMap_plainFor n g]

theorem findSome?_plainFor (n : String) (g : Grammar) :
    g.findSome? (plainFor n) = ((plainDefs g).find? (·.1 == n)).map (·.2.2) := by
  rw [← List.head?_filterMap, filterMap_plainFor, List.head?_map, List.head?_filter]

theorem plain_contains (name : String) (g : Grammar) :
    ((plainDefs g).map (·.1)).contains name = (g.findSome? (plainFor name)).isSome := by
  rw [findSome?_plainFor, Option.isSome_map, Bool.eq_iff_iff, List.contains_iff_mem, List.find?_isSome]
  simp only [List.mem_map, beq_iff_eq]

/-- the commands of the specialisation table never change while the pass runs (only `used` flags do) -/
def SameCmds (specs : AList UserSpec) (b : Book) : Prop :=
  ∀ k, (b.specs.get? k).map (·.cmd) = (specs.get? k).map (·.cmd)

theorem specialize_nonterm_pick (g : Grammar) (sh : Shell) (specs : AList UserSpec) (fbs : AList String)
    (h : getSpecializations g sh = .ok (specs, fbs)) (b : Book)
    (hb : SameCmds specs b) (name : String) (l : Nat) (s : Span) :
    (specialize sh fbs ((plainDefs g).map (·.1)) (.nonterm name l s) b).1 =
      match Spec.pick sh g name with
      | .command c a => .cmd c a l s
      | .expr _ => .nonterm name l s
      | .anyWord => .nonterm name l s := by
  obtain ⟨hs, hc, hf⟩ := getSpecializations_ok_inv g sh specs fbs h
  have hget := specList_get sh name g hc
  rw [← hs, ← hb name] at hget
  rw [pick_unfold]
  unfold specialize
  simp only
  -- erasing from `unused` does not touch `specs`
  cases hsp : b.specs.get? name with
  | some sp =>
    have : g.findSome? (specFor sh name) = some sp.cmd := by rw [← hget, hsp]; rfl
    simp only [this]
    simp
  | none =>
    have : g.findSome? (specFor sh name) = none := by rw [← hget, hsp]; rfl
    simp only [this]
    have hpc := plain_contains name g
    cases hp : g.findSome? (plainFor name) with
    | some e =>
      have : ((plainDefs g).map (·.1)).contains name = true := by rw [hpc, hp]; rfl
      rw [if_pos this]
    | none =>
      have hnd : ((plainDefs g).map (·.1)).contains name = false := by rw [hpc, hp]; rfl
      rw [if_neg (by rw [hnd]; simp)]
      unfold builtinCmd
      cases hbi : (Gen.builtinTable.find? (fun r => r.1 == name && r.2.1 == sh)).map (·.2.2) with
      | some c => simp
      | none =>
        have hfn : fbs.get? name = none := by
          cases hfg : fbs.get? name with
          | none => rfl
          | some v =>
            have := hf name (by simp [hfg])
            have hc' : ((plainDefs g).map (·.1)).contains name = true := by simpa using this
            rw [hnd] at hc'; cases hc'
        simp [hfn]

mutual
def applyPick (sh : Shell) (g : Grammar) : Expr → Expr
  | .nonterm n l s =>
    match Spec.pick sh g n with
    | .command c a => .cmd c a l s
    | _ => .nonterm n l s
  | .term t d l s => .term t d l s
  | .cmd c a l s => .cmd c a l s
  | .sub c l s => .sub (applyPick sh g c) l s
  | .seq cs s => .seq (applyPickL sh g cs) s
  | .alt cs s => .alt (applyPickL sh g cs) s
  | .fb cs s => .fb (applyPickL sh g cs) s
  | .opt c s => .opt (applyPick sh g c) s
  | .many1 c s => .many1 (applyPick sh g c) s
  | .dd c d s => .dd c d s
def applyPickL (sh : Shell) (g : Grammar) : ExprL → ExprL
  | .nil => .nil
  | .cons e es => .cons (applyPick sh g e) (applyPickL sh g es)
end

def topSpecialised (g : Grammar) (sh : Shell) : Expr := applyPick sh g (distribute (topExpr g))

theorem get?_map_used (m : AList UserSpec) (name k : String) :
    ((AList.get? (m.map fun p => if p.1 == name then (p.1, { p.2 with used := true }) else p) k).map (·.cmd)) =
      (m.get? k).map (·.cmd) := by
  unfold AList.get?
  rw [find?_map_key _ (fun p => by by_cases h : p.1 = name <;> simp [h])]
  cases m.find? (·.1 == k) with
  | none => rfl
  | some p => by_cases h : p.1 = name <;> simp [h]

theorem specialize_nonterm_snd (sh : Shell) (fbs : AList String) (defined : List String) (n : String) (l : Nat)
    (s : Span) (b : Book) :
    (specialize sh fbs defined (.nonterm n l s) b).2 =
      ⟨match b.specs.get? n with
        | some _ => b.specs.map fun p => if p.1 == n then (p.1, { p.2 with used := true }) else p
        | none => b.specs,
       b.unused.erase n⟩ := by
  unfold specialize
  simp only
  cases hsp : b.specs.get? n with
  | some sp => rfl
  | none =>
    simp only
    split
    · rfl
    · rename_i c compadd b' hp
      split at hp
      · cases hp
      · split at hp
        · cases hp; rfl
        · split at hp
          · cases hp; rfl
          · cases hp

theorem specialize_nonterm_book (sh : Shell) (fbs : AList String) (defined : List String) (specs : AList UserSpec)
    (name : String) (l : Nat) (s : Span) (b : Book) (hb : SameCmds specs b) :
    SameCmds specs (specialize sh fbs defined (.nonterm name l s) b).2 := by
  intro k
  rw [specialize_nonterm_snd]
  cases b.specs.get? name with
  | some sp => exact (get?_map_used b.specs name k).trans (hb k)
  | none => exact hb k

mutual
theorem specialize_eq_applyPick (g : Grammar) (sh : Shell) (specs : AList UserSpec) (fbs : AList String)
    (h : getSpecializations g sh = .ok (specs, fbs)) :
    ∀ (e : Expr) (b : Book), SameCmds specs b →
      (specialize sh fbs ((plainDefs g).map (·.1)) e b).1 = applyPick sh g e ∧
      SameCmds specs (specialize sh fbs ((plainDefs g).map (·.1)) e b).2
  | .nonterm n l s => fun b hb => by
    refine ⟨?_, specialize_nonterm_book sh fbs _ specs n l s b hb⟩
    rw [specialize_nonterm_pick g sh specs fbs h b hb n l s]
    unfold applyPick
    cases Spec.pick sh g n <;> rfl
  | .term .. | .cmd .. | .dd .. => fun _ hb => ⟨rfl, hb⟩
  | .sub c l s => fun b hb =>
    have ih := specialize_eq_applyPick g sh specs fbs h c b hb
    ⟨congrArg (Expr.sub · l s) ih.1, ih.2⟩
  | .opt c s => fun b hb =>
    have ih := specialize_eq_applyPick g sh specs fbs h c b hb
    ⟨congrArg (Expr.opt · s) ih.1, ih.2⟩
  | .many1 c s => fun b hb =>
    have ih := specialize_eq_applyPick g sh specs fbs h c b hb
    ⟨congrArg (Expr.many1 · s) ih.1, ih.2⟩
  | .seq cs s => fun b hb =>
    have ih := specializeL_eq_applyPickL g sh specs fbs h cs b hb
    ⟨congrArg (Expr.seq · s) ih.1, ih.2⟩
  | .alt cs s => fun b hb =>
    have ih := specializeL_eq_applyPickL g sh specs fbs h cs b hb
    ⟨congrArg (Expr.alt · s) ih.1, ih.2⟩
  | .fb cs s => fun b hb =>
    have ih := specializeL_eq_applyPickL g sh specs fbs h cs b hb
    ⟨congrArg (Expr.fb · s) ih.1, ih.2⟩
theorem specializeL_eq_applyPickL (g : Grammar) (sh : Shell) (specs : AList UserSpec) (fbs : AList String)
    (h : getSpecializations g sh = .ok (specs, fbs)) :
    ∀ (es : ExprL) (b : Book), SameCmds specs b →
      (specializeL sh fbs ((plainDefs g).map (·.1)) es b).1 = applyPickL sh g es ∧
      SameCmds specs (specializeL sh fbs ((plainDefs g).map (·.1)) es b).2
  | .nil => fun _ hb => ⟨rfl, hb⟩
  | .cons e es => fun b hb =>
    have h1 := specialize_eq_applyPick g sh specs fbs h e b hb
    have h2 := specializeL_eq_applyPickL g sh specs fbs h es _ h1.2
    ⟨congr (congrArg ExprL.cons h1.1) h2.1, h2.2⟩
end

end Complgen.Check
