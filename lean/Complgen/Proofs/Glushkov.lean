/-
Glushkov / Dragon-book 3.9.5 correctness of the position automaton: for a linear expression the
words of positions in `Rx.Lang` are exactly the paths `first → follow → … → last`.

Method: a continuation language `Rx.After r p w` ("`w` may follow position `p` inside `r`") with
  (A)  Lang r (x :: w)   ↔ x ∈ first r ∧ After r x w       (`Rx.lang_cons`)
  (B0) After r p []       ↔ p ∈ last r                      (`Rx.after_nil`)
  (B1) After r p (x :: w) ↔ x ∈ follow r p ∧ After r x w    (`Rx.after_cons`)
proved by mutual structural recursion over `Rx`/`RxL`.

After that: an expression without empty alternation (`Rx.NoEmptyOr`) has a word, and each of its
positions a continuation (`Rx.lang_nonempty`, `Rx.after_nonempty`: what co-accessibility of the
built automaton rests on); and with a fresh end marker appended, the paths that reach the marker
are the words of the expression (`Regex.posPath_end_iff`).
-/
import Complgen.Proofs.Basics
namespace Complgen

def Rx.Star (c : Rx) (v : List Nat) : Prop :=
  ∃ ws : List (List Nat), v = ws.flatten ∧ ∀ u ∈ ws, Rx.Lang c u

mutual
/-- `After r p w`: some word of `r` is `… p w` with this occurrence of `p` (positions are unique) -/
def Rx.After : Rx → Nat → List Nat → Prop
  | .eps, _, _ => False
  | .sym q, p, w => p = q ∧ w = []
  | .cat cs, p, w => RxL.AfterCat cs p w
  | .or cs, p, w => RxL.AfterOr cs p w
  | .plus c, p, w => ∃ u v, w = u ++ v ∧ Rx.After c p u ∧ Rx.Star c v
def RxL.AfterCat : RxL → Nat → List Nat → Prop
  | .nil, _, _ => False
  | .cons c cs, p, w =>
    (∃ u v, w = u ++ v ∧ Rx.After c p u ∧ RxL.LangCat cs v) ∨ RxL.AfterCat cs p w
def RxL.AfterOr : RxL → Nat → List Nat → Prop
  | .nil, _, _ => False
  | .cons c cs, p, w => Rx.After c p w ∨ RxL.AfterOr cs p w
end

theorem Rx.star_nil (c : Rx) : Rx.Star c [] := ⟨[], rfl, by simp⟩

theorem Rx.star_cons (c : Rx) (x : Nat) (w : List Nat) :
    Rx.Star c (x :: w) ↔ ∃ u v, w = u ++ v ∧ Rx.Lang c (x :: u) ∧ Rx.Star c v := by
  constructor
  · rintro ⟨ws, h, hall⟩
    obtain ⟨u, ws', h1, h2, rfl⟩ := flatten_eq_cons h.symm
    exact ⟨u, ws'.flatten, rfl, hall _ h1, ws', rfl, fun v hv => hall v (h2 v hv)⟩
  · rintro ⟨u, v, rfl, ha, ws, rfl, hall⟩
    refine ⟨(x :: u) :: ws, by simp, ?_⟩
    intro w hw
    rcases List.mem_cons.mp hw with rfl | hw
    · exact ha
    · exact hall w hw

theorem Rx.lang_plus_cons (c : Rx) (x : Nat) (w : List Nat) :
    Rx.Lang (.plus c) (x :: w) ↔ Rx.Star c (x :: w) := by
  simp only [Rx.Lang, Rx.Star]
  constructor
  · rintro ⟨ws, _, h, hall⟩
    exact ⟨ws, h, hall⟩
  · rintro ⟨ws, h, hall⟩
    refine ⟨ws, ?_, h, hall⟩
    rintro rfl
    simp at h

theorem Rx.lang_plus_nil (c : Rx) : Rx.Lang (.plus c) [] ↔ Rx.Lang c [] := by
  simp only [Rx.Lang]
  constructor
  · rintro ⟨ws, hne, h, hall⟩
    cases ws with
    | nil => exact absurd rfl hne
    | cons w0 ws =>
      have h' : w0 = [] := by
        simp only [List.flatten_cons] at h
        exact (List.append_eq_nil_iff.mp h.symm).1
      subst h'
      exact hall _ (List.mem_cons_self ..)
  · intro h
    refine ⟨[[]], by simp, by simp, ?_⟩
    intro u hu
    simp only [List.mem_singleton] at hu
    subst hu
    exact h

mutual
theorem Rx.first_sub : (r : Rx) → ∀ p ∈ r.first, p ∈ r.positions
  | .eps => by simp [Rx.first]
  | .sym q => by simp [Rx.first, Rx.positions]
  | .cat cs => by
    simp only [Rx.first, Rx.positions]
    exact Rx.firstCat_sub cs
  | .or cs => by
    simp only [Rx.first, Rx.positions]
    exact Rx.firstOr_sub cs
  | .plus c => by
    simp only [Rx.first, Rx.positions]
    exact Rx.first_sub c
theorem Rx.firstCat_sub : (cs : RxL) → ∀ p ∈ Rx.firstCat cs, p ∈ Rx.positionsL cs
  | .nil => by simp [Rx.firstCat]
  | .cons c cs => by
    intro p hp
    simp only [Rx.firstCat, List.mem_append] at hp
    simp only [Rx.positionsL, List.mem_append]
    rcases hp with hp | hp
    · exact .inl (Rx.first_sub c p hp)
    · split at hp
      · exact .inr (Rx.firstCat_sub cs p hp)
      · simp at hp
theorem Rx.firstOr_sub : (cs : RxL) → ∀ p ∈ Rx.firstOr cs, p ∈ Rx.positionsL cs
  | .nil => by simp [Rx.firstOr]
  | .cons c cs => by
    intro p hp
    simp only [Rx.firstOr, List.mem_append] at hp
    simp only [Rx.positionsL, List.mem_append]
    exact hp.imp (Rx.first_sub c p) (Rx.firstOr_sub cs p)
end

mutual
theorem Rx.last_sub : (r : Rx) → ∀ p ∈ r.last, p ∈ r.positions
  | .eps => by simp [Rx.last]
  | .sym q => by simp [Rx.last, Rx.positions]
  | .cat cs => by
    simp only [Rx.last, Rx.positions]
    exact Rx.lastCat_sub cs
  | .or cs => by
    simp only [Rx.last, Rx.positions]
    exact Rx.lastOr_sub cs
  | .plus c => by
    simp only [Rx.last, Rx.positions]
    exact Rx.last_sub c
theorem Rx.lastCat_sub : (cs : RxL) → ∀ p ∈ Rx.lastCat cs, p ∈ Rx.positionsL cs
  | .nil => by simp [Rx.lastCat]
  | .cons c cs => by
    intro p hp
    simp only [Rx.lastCat, List.mem_append] at hp
    simp only [Rx.positionsL, List.mem_append]
    rcases hp with hp | hp
    · exact .inr (Rx.lastCat_sub cs p hp)
    · split at hp
      · exact .inl (Rx.last_sub c p hp)
      · simp at hp
theorem Rx.lastOr_sub : (cs : RxL) → ∀ p ∈ Rx.lastOr cs, p ∈ Rx.positionsL cs
  | .nil => by simp [Rx.lastOr]
  | .cons c cs => by
    intro p hp
    simp only [Rx.lastOr, List.mem_append] at hp
    simp only [Rx.positionsL, List.mem_append]
    exact hp.imp (Rx.last_sub c p) (Rx.lastOr_sub cs p)
end

mutual
theorem Rx.follow_sub : (r : Rx) → (p : Nat) → ∀ q ∈ r.follow p, q ∈ r.positions
  | .eps, _ => by simp [Rx.follow]
  | .sym _, _ => by simp [Rx.follow]
  | .cat cs, p => by
    simp only [Rx.follow, Rx.positions]
    exact Rx.followCat_sub cs p
  | .or cs, p => by
    simp only [Rx.follow, Rx.positions]
    exact Rx.followOr_sub cs p
  | .plus c, p => by
    intro q hq
    simp only [Rx.follow, List.mem_append] at hq
    simp only [Rx.positions]
    rcases hq with hq | hq
    · exact Rx.follow_sub c p q hq
    · split at hq
      · exact Rx.first_sub c q hq
      · simp at hq
theorem Rx.followCat_sub : (cs : RxL) → (p : Nat) → ∀ q ∈ Rx.followCat cs p, q ∈ Rx.positionsL cs
  | .nil, _ => by simp [Rx.followCat]
  | .cons c cs, p => by
    intro q hq
    simp only [Rx.followCat, List.mem_append] at hq
    simp only [Rx.positionsL, List.mem_append]
    rcases hq with (hq | hq) | hq
    · exact .inl (Rx.follow_sub c p q hq)
    · exact .inr (Rx.followCat_sub cs p q hq)
    · split at hq
      · exact .inr (Rx.firstCat_sub cs q hq)
      · simp at hq
theorem Rx.followOr_sub : (cs : RxL) → (p : Nat) → ∀ q ∈ Rx.followOr cs p, q ∈ Rx.positionsL cs
  | .nil, _ => by simp [Rx.followOr]
  | .cons c cs, p => by
    intro q hq
    simp only [Rx.followOr, List.mem_append] at hq
    simp only [Rx.positionsL, List.mem_append]
    exact hq.imp (Rx.follow_sub c p q) (Rx.followOr_sub cs p q)
end

theorem Regex.first_follow_le {r : Regex} (hpos : ∀ q ∈ r.root.positions, q ≤ r.endPos) :
    (∀ p q, q ∈ r.follow p → q ≤ r.endPos) ∧ ∀ q ∈ r.first, q ≤ r.endPos :=
  ⟨fun p q hq => Regex.full_positions_le hpos q (Rx.follow_sub _ p q hq),
    fun q hq => Regex.full_positions_le hpos q (Rx.first_sub _ q hq)⟩

mutual
theorem Rx.follow_nil_of_not_pos : (r : Rx) → (p : Nat) → p ∉ r.positions → r.follow p = []
  | .eps, _, _ => by simp [Rx.follow]
  | .sym _, _, _ => by simp [Rx.follow]
  | .cat cs, p, h => by
    simp only [Rx.positions] at h
    simp only [Rx.follow]
    exact Rx.followCat_nil_of_not_pos cs p h
  | .or cs, p, h => by
    simp only [Rx.positions] at h
    simp only [Rx.follow]
    exact Rx.followOr_nil_of_not_pos cs p h
  | .plus c, p, h => by
    simp only [Rx.positions] at h
    have h1 : p ∉ c.last := fun hp => h (Rx.last_sub c p hp)
    simp only [Rx.follow, Rx.follow_nil_of_not_pos c p h, if_neg h1, List.append_nil]
theorem Rx.followCat_nil_of_not_pos : (cs : RxL) → (p : Nat) → p ∉ Rx.positionsL cs →
    Rx.followCat cs p = []
  | .nil, _, _ => by simp [Rx.followCat]
  | .cons c cs, p, h => by
    simp only [Rx.positionsL, List.mem_append, not_or] at h
    have h1 : p ∉ c.last := fun hp => h.1 (Rx.last_sub c p hp)
    simp only [Rx.followCat, Rx.follow_nil_of_not_pos c p h.1,
      Rx.followCat_nil_of_not_pos cs p h.2, if_neg h1, List.append_nil]
theorem Rx.followOr_nil_of_not_pos : (cs : RxL) → (p : Nat) → p ∉ Rx.positionsL cs →
    Rx.followOr cs p = []
  | .nil, _, _ => by simp [Rx.followOr]
  | .cons c cs, p, h => by
    simp only [Rx.positionsL, List.mem_append, not_or] at h
    simp only [Rx.followOr, Rx.follow_nil_of_not_pos c p h.1,
      Rx.followOr_nil_of_not_pos cs p h.2, List.append_nil]
end

mutual
theorem Rx.after_pos : (r : Rx) → ∀ p w, Rx.After r p w → p ∈ r.positions
  | .eps => by simp [Rx.After]
  | .sym q => by simp [Rx.After, Rx.positions]
  | .cat cs => by
    simp only [Rx.After, Rx.positions]
    exact RxL.afterCat_pos cs
  | .or cs => by
    simp only [Rx.After, Rx.positions]
    exact RxL.afterOr_pos cs
  | .plus c => by
    simp only [Rx.After, Rx.positions]
    rintro p w ⟨u, v, _, h, _⟩
    exact Rx.after_pos c p u h
theorem RxL.afterCat_pos : (cs : RxL) → ∀ p w, RxL.AfterCat cs p w → p ∈ Rx.positionsL cs
  | .nil => by simp [RxL.AfterCat]
  | .cons c cs => by
    intro p w h
    simp only [RxL.AfterCat] at h
    simp only [Rx.positionsL, List.mem_append]
    rcases h with ⟨u, v, _, h, _⟩ | h
    · exact .inl (Rx.after_pos c p u h)
    · exact .inr (RxL.afterCat_pos cs p w h)
theorem RxL.afterOr_pos : (cs : RxL) → ∀ p w, RxL.AfterOr cs p w → p ∈ Rx.positionsL cs
  | .nil => by simp [RxL.AfterOr]
  | .cons c cs => by
    intro p w h
    simp only [RxL.AfterOr] at h
    simp only [Rx.positionsL, List.mem_append]
    exact h.imp (Rx.after_pos c p w) (RxL.afterOr_pos cs p w)
end

mutual
theorem Rx.lang_nil_iff : (r : Rx) → (r.Lang [] ↔ r.nullable = true)
  | .eps => by simp [Rx.Lang, Rx.nullable]
  | .sym p => by simp [Rx.Lang, Rx.nullable]
  | .cat cs => by
    simp only [Rx.Lang, Rx.nullable]
    exact RxL.langCat_nil_iff cs
  | .or cs => by
    simp only [Rx.Lang, Rx.nullable]
    exact RxL.langOr_nil_iff cs
  | .plus c => by
    rw [Rx.lang_plus_nil]
    simp only [Rx.nullable]
    exact Rx.lang_nil_iff c
theorem RxL.langCat_nil_iff : (cs : RxL) → (RxL.LangCat cs [] ↔ Rx.nullableAll cs = true)
  | .nil => by simp [RxL.LangCat, Rx.nullableAll]
  | .cons c cs => by
    simp only [RxL.LangCat, Rx.nullableAll, Bool.and_eq_true]
    constructor
    · rintro ⟨u, v, h, ha, hb⟩
      have : u = [] ∧ v = [] := by simpa using h.symm
      obtain ⟨rfl, rfl⟩ := this
      exact ⟨(Rx.lang_nil_iff c).mp ha, (RxL.langCat_nil_iff cs).mp hb⟩
    · rintro ⟨ha, hb⟩
      exact ⟨[], [], rfl, (Rx.lang_nil_iff c).mpr ha, (RxL.langCat_nil_iff cs).mpr hb⟩
theorem RxL.langOr_nil_iff : (cs : RxL) → (RxL.LangOr cs [] ↔ Rx.nullableAny cs = true)
  | .nil => by simp [RxL.LangOr, Rx.nullableAny]
  | .cons c cs => by
    simp only [RxL.LangOr, Rx.nullableAny, Bool.or_eq_true, Rx.lang_nil_iff c,
      RxL.langOr_nil_iff cs]
end

theorem nodup_append_parts {l₁ l₂ : List Nat} (h : (l₁ ++ l₂).Nodup) :
    l₁.Nodup ∧ l₂.Nodup ∧ ∀ p, p ∈ l₁ → p ∉ l₂ := by
  rw [List.nodup_append] at h
  exact ⟨h.1, h.2.1, fun p h1 h2 => h.2.2 p h1 p h2 rfl⟩

mutual
theorem Rx.lang_cons : (r : Rx) → r.positions.Nodup → ∀ (x : Nat) (w : List Nat),
    (r.Lang (x :: w) ↔ x ∈ r.first ∧ Rx.After r x w)
  | .eps, _ => by simp [Rx.Lang, Rx.first]
  | .sym q, _ => by
    intro x w
    simp only [Rx.Lang, Rx.first, Rx.After, List.mem_singleton, List.cons.injEq]
    constructor
    · rintro ⟨rfl, rfl⟩; exact ⟨rfl, rfl, rfl⟩
    · rintro ⟨rfl, _, rfl⟩; exact ⟨rfl, rfl⟩
  | .cat cs, hl => by
    simp only [Rx.positions] at hl
    simp only [Rx.Lang, Rx.first, Rx.After]
    exact RxL.langCat_cons cs hl
  | .or cs, hl => by
    simp only [Rx.positions] at hl
    simp only [Rx.Lang, Rx.first, Rx.After]
    exact RxL.langOr_cons cs hl
  | .plus c, hl => by
    simp only [Rx.positions] at hl
    intro x w
    rw [Rx.lang_plus_cons, Rx.star_cons]
    simp only [Rx.first, Rx.After]
    constructor
    · rintro ⟨u, v, rfl, ha, hs⟩
      obtain ⟨hp, h⟩ := (Rx.lang_cons c hl x u).mp ha
      exact ⟨hp, u, v, rfl, h, hs⟩
    · rintro ⟨hp, u, v, rfl, h, hs⟩
      exact ⟨u, v, rfl, (Rx.lang_cons c hl x u).mpr ⟨hp, h⟩, hs⟩
theorem RxL.langCat_cons : (cs : RxL) → (Rx.positionsL cs).Nodup → ∀ (x : Nat) (w : List Nat),
    (RxL.LangCat cs (x :: w) ↔ x ∈ Rx.firstCat cs ∧ RxL.AfterCat cs x w)
  | .nil, _ => by simp [RxL.LangCat, Rx.firstCat]
  | .cons c cs, hl => by
    simp only [Rx.positionsL] at hl
    obtain ⟨la, lb, hd⟩ := nodup_append_parts hl
    intro x w
    simp only [RxL.LangCat, Rx.firstCat, RxL.AfterCat, List.mem_append]
    constructor
    · rintro ⟨u, v, h, ha, hb⟩
      cases u with
      | nil =>
        simp only [List.nil_append] at h
        subst h
        have hn := (Rx.lang_nil_iff c).mp ha
        obtain ⟨hp, h⟩ := (RxL.langCat_cons cs lb x w).mp hb
        exact ⟨.inr (by simpa [hn] using hp), .inr h⟩
      | cons y u =>
        simp only [List.cons_append, List.cons.injEq] at h
        obtain ⟨rfl, rfl⟩ := h
        obtain ⟨hp, h⟩ := (Rx.lang_cons c la x u).mp ha
        exact ⟨.inl hp, .inl ⟨u, v, rfl, h, hb⟩⟩
    · rintro ⟨hp, h⟩
      rcases h with ⟨u, v, rfl, h, hb⟩ | h
      · have hpa := Rx.after_pos c x u h
        rcases hp with hp | hp
        · exact ⟨x :: u, v, rfl, (Rx.lang_cons c la x u).mpr ⟨hp, h⟩, hb⟩
        · split at hp
          · exact absurd (Rx.firstCat_sub cs x hp) (hd x hpa)
          · simp at hp
      · have hpb := RxL.afterCat_pos cs x w h
        rcases hp with hp | hp
        · exact absurd hpb (hd x (Rx.first_sub c x hp))
        · split at hp
          · rename_i hn
            exact ⟨[], x :: w, rfl, (Rx.lang_nil_iff c).mpr hn,
              (RxL.langCat_cons cs lb x w).mpr ⟨hp, h⟩⟩
          · simp at hp
theorem RxL.langOr_cons : (cs : RxL) → (Rx.positionsL cs).Nodup → ∀ (x : Nat) (w : List Nat),
    (RxL.LangOr cs (x :: w) ↔ x ∈ Rx.firstOr cs ∧ RxL.AfterOr cs x w)
  | .nil, _ => by simp [RxL.LangOr, Rx.firstOr]
  | .cons c cs, hl => by
    simp only [Rx.positionsL] at hl
    obtain ⟨la, lb, hd⟩ := nodup_append_parts hl
    intro x w
    simp only [RxL.LangOr, Rx.firstOr, RxL.AfterOr, List.mem_append,
      Rx.lang_cons c la, RxL.langOr_cons cs lb]
    constructor
    · rintro (⟨hp, h⟩ | ⟨hp, h⟩)
      · exact ⟨.inl hp, .inl h⟩
      · exact ⟨.inr hp, .inr h⟩
    · rintro ⟨hp, h⟩
      rcases h with h | h
      · rcases hp with hp | hp
        · exact .inl ⟨hp, h⟩
        · exact absurd (Rx.firstOr_sub cs x hp) (hd x (Rx.after_pos c x w h))
      · rcases hp with hp | hp
        · exact absurd (RxL.afterOr_pos cs x w h) (hd x (Rx.first_sub c x hp))
        · exact .inr ⟨hp, h⟩
end

mutual
theorem Rx.after_nil : (r : Rx) → ∀ p, (Rx.After r p [] ↔ p ∈ r.last)
  | .eps => by simp [Rx.After, Rx.last]
  | .sym q => by simp [Rx.After, Rx.last]
  | .cat cs => by
    simp only [Rx.After, Rx.last]
    exact RxL.afterCat_nil cs
  | .or cs => by
    simp only [Rx.After, Rx.last]
    exact RxL.afterOr_nil cs
  | .plus c => by
    intro p
    simp only [Rx.After, Rx.last]
    constructor
    · rintro ⟨u, v, h, ha, _⟩
      have : u = [] ∧ v = [] := by simpa using h.symm
      obtain ⟨rfl, rfl⟩ := this
      exact (Rx.after_nil c p).mp ha
    · intro h
      exact ⟨[], [], rfl, (Rx.after_nil c p).mpr h, Rx.star_nil c⟩
theorem RxL.afterCat_nil : (cs : RxL) → ∀ p, (RxL.AfterCat cs p [] ↔ p ∈ Rx.lastCat cs)
  | .nil => by simp [RxL.AfterCat, Rx.lastCat]
  | .cons c cs => by
    intro p
    simp only [RxL.AfterCat, Rx.lastCat, List.mem_append]
    constructor
    · rintro (⟨u, v, h, ha, hb⟩ | h)
      · have : u = [] ∧ v = [] := by simpa using h.symm
        obtain ⟨rfl, rfl⟩ := this
        have hn := (RxL.langCat_nil_iff cs).mp hb
        exact .inr (by simpa [hn] using (Rx.after_nil c p).mp ha)
      · exact .inl ((RxL.afterCat_nil cs p).mp h)
    · rintro (h | h)
      · exact .inr ((RxL.afterCat_nil cs p).mpr h)
      · split at h
        · rename_i hn
          exact .inl ⟨[], [], rfl, (Rx.after_nil c p).mpr h, (RxL.langCat_nil_iff cs).mpr hn⟩
        · simp at h
theorem RxL.afterOr_nil : (cs : RxL) → ∀ p, (RxL.AfterOr cs p [] ↔ p ∈ Rx.lastOr cs)
  | .nil => by simp [RxL.AfterOr, Rx.lastOr]
  | .cons c cs => by
    intro p
    simp only [RxL.AfterOr, Rx.lastOr, List.mem_append, Rx.after_nil c, RxL.afterOr_nil cs]
end

mutual
theorem Rx.after_cons : (r : Rx) → r.positions.Nodup → ∀ (p x : Nat) (w : List Nat),
    (Rx.After r p (x :: w) ↔ x ∈ r.follow p ∧ Rx.After r x w)
  | .eps, _ => by simp [Rx.After, Rx.follow]
  | .sym q, _ => by simp [Rx.After, Rx.follow]
  | .cat cs, hl => by
    simp only [Rx.positions] at hl
    simp only [Rx.After, Rx.follow]
    exact RxL.afterCat_cons cs hl
  | .or cs, hl => by
    simp only [Rx.positions] at hl
    simp only [Rx.After, Rx.follow]
    exact RxL.afterOr_cons cs hl
  | .plus c, hl => by
    simp only [Rx.positions] at hl
    intro p x w
    simp only [Rx.After, Rx.follow, List.mem_append]
    constructor
    · rintro ⟨u, v, h, ha, hs⟩
      cases u with
      | nil =>
        simp only [List.nil_append] at h
        subst h
        have hp := (Rx.after_nil c p).mp ha
        obtain ⟨u', v', rfl, ha', hs'⟩ := (Rx.star_cons c x w).mp hs
        obtain ⟨hq, h⟩ := (Rx.lang_cons c hl x u').mp ha'
        exact ⟨.inr (by simpa [hp] using hq), u', v', rfl, h, hs'⟩
      | cons y u =>
        simp only [List.cons_append, List.cons.injEq] at h
        obtain ⟨rfl, rfl⟩ := h
        obtain ⟨hq, h⟩ := (Rx.after_cons c hl p x u).mp ha
        exact ⟨.inl hq, u, v, rfl, h, hs⟩
    · rintro ⟨hq, u, v, rfl, h, hs⟩
      rcases hq with hq | hq
      · exact ⟨x :: u, v, rfl, (Rx.after_cons c hl p x u).mpr ⟨hq, h⟩, hs⟩
      · split at hq
        · rename_i hp
          refine ⟨[], x :: (u ++ v), rfl, (Rx.after_nil c p).mpr hp, ?_⟩
          exact (Rx.star_cons c x (u ++ v)).mpr ⟨u, v, rfl,
            (Rx.lang_cons c hl x u).mpr ⟨hq, h⟩, hs⟩
        · simp at hq
theorem RxL.afterCat_cons : (cs : RxL) → (Rx.positionsL cs).Nodup →
    ∀ (p x : Nat) (w : List Nat),
    (RxL.AfterCat cs p (x :: w) ↔ x ∈ Rx.followCat cs p ∧ RxL.AfterCat cs x w)
  | .nil, _ => by simp [RxL.AfterCat, Rx.followCat]
  | .cons c cs, hl => by
    simp only [Rx.positionsL] at hl
    obtain ⟨la, lb, hd⟩ := nodup_append_parts hl
    intro p x w
    simp only [RxL.AfterCat, Rx.followCat, List.mem_append]
    constructor
    · rintro (⟨u, v, h, ha, hb⟩ | h)
      · cases u with
        | nil =>
          simp only [List.nil_append] at h
          subst h
          have hp := (Rx.after_nil c p).mp ha
          obtain ⟨hq, h⟩ := (RxL.langCat_cons cs lb x w).mp hb
          exact ⟨.inr (by simpa [hp] using hq), .inr h⟩
        | cons y u =>
          simp only [List.cons_append, List.cons.injEq] at h
          obtain ⟨rfl, rfl⟩ := h
          obtain ⟨hq, h⟩ := (Rx.after_cons c la p x u).mp ha
          exact ⟨.inl (.inl hq), .inl ⟨u, v, rfl, h, hb⟩⟩
      · obtain ⟨hq, h⟩ := (RxL.afterCat_cons cs lb p x w).mp h
        exact ⟨.inl (.inr hq), .inr h⟩
    · rintro ⟨hq, h⟩
      rcases hq with (hq | hq) | hq
      · rcases h with ⟨u, v, rfl, h, hb⟩ | h
        · exact .inl ⟨x :: u, v, rfl, (Rx.after_cons c la p x u).mpr ⟨hq, h⟩, hb⟩
        · exact absurd (RxL.afterCat_pos cs x w h) (hd x (Rx.follow_sub c p x hq))
      · rcases h with ⟨u, v, rfl, h, hb⟩ | h
        · exact absurd (Rx.followCat_sub cs p x hq) (hd x (Rx.after_pos c x u h))
        · exact .inr ((RxL.afterCat_cons cs lb p x w).mpr ⟨hq, h⟩)
      · split at hq
        · rename_i hp
          rcases h with ⟨u, v, rfl, h, hb⟩ | h
          · exact absurd (Rx.firstCat_sub cs x hq) (hd x (Rx.after_pos c x u h))
          · exact .inl ⟨[], x :: w, rfl, (Rx.after_nil c p).mpr hp,
              (RxL.langCat_cons cs lb x w).mpr ⟨hq, h⟩⟩
        · simp at hq
theorem RxL.afterOr_cons : (cs : RxL) → (Rx.positionsL cs).Nodup →
    ∀ (p x : Nat) (w : List Nat),
    (RxL.AfterOr cs p (x :: w) ↔ x ∈ Rx.followOr cs p ∧ RxL.AfterOr cs x w)
  | .nil, _ => by simp [RxL.AfterOr, Rx.followOr]
  | .cons c cs, hl => by
    simp only [Rx.positionsL] at hl
    obtain ⟨la, lb, hd⟩ := nodup_append_parts hl
    intro p x w
    simp only [RxL.AfterOr, Rx.followOr, List.mem_append, Rx.after_cons c la,
      RxL.afterOr_cons cs lb]
    constructor
    · rintro (⟨hq, h⟩ | ⟨hq, h⟩)
      · exact ⟨.inl hq, .inl h⟩
      · exact ⟨.inr hq, .inr h⟩
    · rintro ⟨hq, h⟩
      rcases hq with hq | hq <;> rcases h with h | h
      · exact .inl ⟨hq, h⟩
      · exact absurd (RxL.afterOr_pos cs x w h) (hd x (Rx.follow_sub c p x hq))
      · exact absurd (Rx.followOr_sub cs p x hq) (hd x (Rx.after_pos c x w h))
      · exact .inr ⟨hq, h⟩
end

mutual
/-- no alternation without alternatives (the language of `or []` is empty) -/
def Rx.NoEmptyOr : Rx → Prop
  | .eps => True
  | .sym _ => True
  | .cat cs => RxL.NoEmptyOr cs
  | .or cs => cs ≠ .nil ∧ RxL.NoEmptyOr cs
  | .plus c => Rx.NoEmptyOr c
def RxL.NoEmptyOr : RxL → Prop
  | .nil => True
  | .cons c cs => Rx.NoEmptyOr c ∧ RxL.NoEmptyOr cs
end

mutual
theorem Rx.lang_nonempty : (r : Rx) → r.NoEmptyOr → ∃ w, r.Lang w
  | .eps => fun _ => ⟨[], rfl⟩
  | .sym p => fun _ => ⟨[p], rfl⟩
  | .cat cs => fun h => RxL.langCat_nonempty cs h
  | .or cs => fun h => RxL.langOr_nonempty cs h.1 h.2
  | .plus c => fun h => by
    obtain ⟨w, hw⟩ := Rx.lang_nonempty c h
    exact ⟨w, [w], by simp, by simp, by simpa using hw⟩
theorem RxL.langCat_nonempty : (cs : RxL) → cs.NoEmptyOr → ∃ w, RxL.LangCat cs w
  | .nil => fun _ => ⟨[], rfl⟩
  | .cons c cs => fun h => by
    obtain ⟨u, hu⟩ := Rx.lang_nonempty c h.1
    obtain ⟨v, hv⟩ := RxL.langCat_nonempty cs h.2
    exact ⟨u ++ v, u, v, rfl, hu, hv⟩
theorem RxL.langOr_nonempty : (cs : RxL) → cs ≠ .nil → cs.NoEmptyOr → ∃ w, RxL.LangOr cs w
  | .nil => fun h _ => absurd rfl h
  | .cons c cs => fun _ h => by
    obtain ⟨u, hu⟩ := Rx.lang_nonempty c h.1
    exact ⟨u, .inl hu⟩
end

mutual
theorem Rx.after_nonempty : (r : Rx) → r.NoEmptyOr → ∀ p ∈ r.positions, ∃ w, Rx.After r p w
  | .eps => fun _ p hp => by simp [Rx.positions] at hp
  | .sym q => fun _ p hp => by
    simp only [Rx.positions, List.mem_singleton] at hp
    exact ⟨[], hp, rfl⟩
  | .cat cs => fun h p hp => RxL.afterCat_nonempty cs h p hp
  | .or cs => fun h p hp => RxL.afterOr_nonempty cs h.2 p hp
  | .plus c => fun h p hp => by
    obtain ⟨u, hu⟩ := Rx.after_nonempty c h p hp
    exact ⟨u ++ [], u, [], rfl, hu, Rx.star_nil c⟩
theorem RxL.afterCat_nonempty : (cs : RxL) → cs.NoEmptyOr → ∀ p ∈ Rx.positionsL cs,
    ∃ w, RxL.AfterCat cs p w
  | .nil => fun _ p hp => by simp [Rx.positionsL] at hp
  | .cons c cs => fun h p hp => by
    rcases List.mem_append.1 hp with hp | hp
    · obtain ⟨u, hu⟩ := Rx.after_nonempty c h.1 p hp
      obtain ⟨v, hv⟩ := RxL.langCat_nonempty cs h.2
      exact ⟨u ++ v, .inl ⟨u, v, rfl, hu, hv⟩⟩
    · obtain ⟨w, hw⟩ := RxL.afterCat_nonempty cs h.2 p hp
      exact ⟨w, .inr hw⟩
theorem RxL.afterOr_nonempty : (cs : RxL) → cs.NoEmptyOr → ∀ p ∈ Rx.positionsL cs,
    ∃ w, RxL.AfterOr cs p w
  | .nil => fun _ p hp => by simp [Rx.positionsL] at hp
  | .cons c cs => fun h p hp => by
    rcases List.mem_append.1 hp with hp | hp
    · obtain ⟨u, hu⟩ := Rx.after_nonempty c h.1 p hp
      exact ⟨u, .inl hu⟩
    · obtain ⟨w, hw⟩ := RxL.afterOr_nonempty cs h.2 p hp
      exact ⟨w, .inr hw⟩
end

def Walk (fo : Nat → List Nat) (la : List Nat) : Nat → List Nat → Prop
  | p, [] => p ∈ la
  | p, x :: w => x ∈ fo p ∧ Walk fo la x w

theorem Rx.after_iff_walk (r : Rx) (hl : r.Linear) :
    ∀ (w : List Nat) (p : Nat), Rx.After r p w ↔ Walk r.follow r.last p w
  | [], p => by simp only [Walk]; exact Rx.after_nil r p
  | x :: w, p => by
    simp only [Walk]
    rw [Rx.after_cons r hl p x w, Rx.after_iff_walk r hl w x]

theorem walk_snoc_iff (fo : Nat → List Nat) (la : List Nat) (p : Nat) :
    ∀ (ps : List Nat) (x : Nat), Walk fo la x (ps ++ [p]) ↔
      ∃ cur, PosPath (fo x) fo ps cur ∧ p ∈ cur ∧ p ∈ la
  | [], x => by
    simp only [List.nil_append, Walk, PosPath.nil_iff]
    constructor
    · rintro ⟨h1, h2⟩; exact ⟨_, rfl, h1, h2⟩
    · rintro ⟨_, rfl, h1, h2⟩; exact ⟨h1, h2⟩
  | y :: ps, x => by
    simp only [List.cons_append, Walk, PosPath.cons_iff]
    rw [walk_snoc_iff fo la p ps y]
    constructor
    · rintro ⟨hy, cur, h, h1, h2⟩; exact ⟨cur, ⟨hy, h⟩, h1, h2⟩
    · rintro ⟨cur, ⟨hy, h⟩, h1, h2⟩; exact ⟨hy, cur, h, h1, h2⟩

/-- Glushkov: for a linear expression, a non-empty word of positions is in the language iff it is
a path of the position automaton ending in `last`. -/
theorem Rx.lang_iff_path (r : Rx) (hl : r.Linear) (ps : List Nat) (p : Nat) :
    r.Lang (ps ++ [p]) ↔ ∃ cur, PosPath r.first r.follow ps cur ∧ p ∈ cur ∧ p ∈ r.last := by
  cases ps with
  | nil =>
    simp only [List.nil_append, PosPath.nil_iff]
    rw [Rx.lang_cons r hl p [], Rx.after_nil r p]
    constructor
    · rintro ⟨h1, h2⟩; exact ⟨_, rfl, h1, h2⟩
    · rintro ⟨_, rfl, h1, h2⟩; exact ⟨h1, h2⟩
  | cons x ps =>
    simp only [List.cons_append, PosPath.cons_iff]
    rw [Rx.lang_cons r hl x (ps ++ [p]), Rx.after_iff_walk r hl, walk_snoc_iff]
    constructor
    · rintro ⟨hx, cur, h, h1, h2⟩; exact ⟨cur, ⟨hx, h⟩, h1, h2⟩
    · rintro ⟨cur, ⟨hx, h⟩, h1, h2⟩; exact ⟨hx, cur, h, h1, h2⟩

/-- With the end marker appended (`full = cat [root, sym e]`, `e` fresh): the position automaton of
`full` accepts a path `ps` (then `e`) iff `ps` is a word of `root`, whether or not `e` occurs in
`ps`. -/
theorem Regex.posPath_end_iff (root : Rx) (e : Nat) (hl : root.Linear) (he : e ∉ root.positions)
    (ps : List Nat) (_hps : ∀ p ∈ ps, p ≠ e) :
    (∃ cur, PosPath (Rx.cat (.cons root (.cons (.sym e) .nil))).first
              (Rx.cat (.cons root (.cons (.sym e) .nil))).follow ps cur ∧ e ∈ cur)
    ↔ root.Lang ps := by
  have hlast : e ∈ (Rx.cat (.cons root (.cons (.sym e) .nil))).last := by
    simp [Rx.last, Rx.lastCat, Rx.nullableAll]
  have hlang : (Rx.cat (.cons root (.cons (.sym e) .nil))).Lang (ps ++ [e]) ↔ root.Lang ps := by
    simp only [Rx.Lang, RxL.LangCat]
    constructor
    · rintro ⟨u, v, h, hu, u', v', rfl, rfl, rfl⟩
      simp only [List.append_nil] at h
      have := List.append_cancel_right h
      subst this
      exact hu
    · intro h
      exact ⟨ps, [e], rfl, h, [e], [], rfl, rfl, rfl⟩
  rw [← hlang, Rx.lang_iff_path _ (Rx.linear_end hl he) ps e]
  constructor
  · rintro ⟨cur, h, h1⟩; exact ⟨cur, h, h1, hlast⟩
  · rintro ⟨cur, h, h1, _⟩; exact ⟨cur, h, h1⟩

end Complgen
