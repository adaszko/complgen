/-
The automaton returned by `minimize` is REDUCED (no two different states accept the same words)
and ACCESSIBLE (every state is reachable from the start state), for EVERY work-list schedule.
-/
import Complgen.Proofs.Hopcroft
namespace Complgen.Min

def Dist (a : Auto) (p q : Nat) : Prop := ∃ w, accC a p w ≠ accC a q w

theorem Dist.symm {a : Auto} {p q : Nat} (h : Dist a p q) : Dist a q p := by
  obtain ⟨w, hw⟩ := h
  exact ⟨w, fun e => hw e.symm⟩

def BlocksDist (a : Auto) (P : List Block) : Prop :=
  ∀ B ∈ P, ∀ C ∈ P, B ≠ C → ∀ p ∈ B, ∀ q ∈ C, Dist a p q

theorem uncut_of_block {a : Auto} {P : List Block} (hP : PInv a P) {X B : Block} (hX : X ∈ P)
    (hB : B ∈ P) : Uncut X B := by
  intro p hp q hq
  constructor
  · intro h
    have := hP.disj X hX B hB p h hp
    subst this; exact hq
  · intro h
    have := hP.disj X hX B hB q h hq
    subst this; exact hp

/-- The heart of the matter: a splitter `g` that is a union of blocks of a partition whose blocks
are pairwise distinguishable separates only distinguishable states.  A state outside `froms` goes
to the dead state on every input, a state of `froms` has a transition to a state that can reach
acceptance (this is where co-accessibility is needed). -/
theorem dist_of_cut {a : Auto} {P : List Block} (hwf : WF a) (hco : CoAcc a) (hP : PInv a P)
    (hD : BlocksDist a P) {g : Block} (hg : ∀ B ∈ P, Uncut g B) {i p q : Nat}
    (hp : p ∈ preimage a (normSet (a.trans.map (·.1))) g i)
    (hq : q ∉ preimage a (normSet (a.trans.map (·.1))) g i) : Dist a p q := by
  obtain ⟨hpf, hpg⟩ := mem_preimage.1 hp
  by_cases hqf : q ∈ normSet (a.trans.map (·.1))
  · have hqg : stepC a q i ∉ g := fun h => hq (mem_preimage.2 ⟨hqf, h⟩)
    obtain ⟨B1, hB1, h1⟩ := hP.cover _ (stepC_mem_all a p i)
    obtain ⟨B2, hB2, h2⟩ := hP.cover _ (stepC_mem_all a q i)
    have hne : B1 ≠ B2 := by
      intro e; subst e
      exact hqg ((hg B1 hB1 _ h1 _ h2).1 hpg)
    obtain ⟨w, hw⟩ := hD B1 hB1 B2 hB2 hne _ h1 _ h2
    exact ⟨i :: w, by rw [accC_cons, accC_cons]; exact hw⟩
  · have hq0 : ∀ j, stepC a q j = 0 := by
      intro j; apply Classical.byContradiction; intro h; exact hqf (stepC_froms h)
    obtain ⟨t, ht, e⟩ : ∃ t ∈ a.trans, t.1 = p := by
      have := mem_normSet.1 hpf
      simpa using this
    have hs : a.step p t.2.1 = some t.2.2 := e ▸ step_of_mem hwf.2.1 ht
    obtain ⟨w, hw⟩ := hco t.2.2 (mem_states.2 (.inr ⟨t, ht, .inr rfl⟩))
    rw [hwf.accFrom_eq_accC] at hw
    refine ⟨t.2.1 :: w, ?_⟩
    rw [accC_cons, accC_cons, hwf.stepC_of_step hs, hq0, accC_dead hwf.zero_not_acc, hw]
    simp

structure DistInv (a : Auto) (E : Block → Prop) (st : HState) : Prop where
  pinv : PInv a st.parts
  dist : BlocksDist a st.parts
  uncut : ∀ X, (X ∈ st.work ∨ E X) → ∀ B ∈ st.parts, Uncut X B

theorem split_distInv {a : Auto} {E : Block → Prop} {st : HState} {y y1 y2 : Block}
    (hc : IsCut y y1 y2) (h : DistInv a E st) (hy : y ∈ st.parts)
    (hx : ∀ p ∈ y1, ∀ q ∈ y2, Dist a p q) :
    DistInv a E ⟨splitParts st.parts y y1 y2, splitWork st.work y y1 y2⟩ := by
  have hold := split_sub_old (P := st.parts) hc hy
  have hP' : PInv a (splitParts st.parts y y1 y2) := split_PInv hc h.pinv hy
  refine ⟨hP', ?_, ?_⟩
  · intro B hB C hC hne p hp q hq
    rcases mem_splitParts.1 hB with ⟨hBP, hBy⟩ | rfl | rfl <;>
      rcases mem_splitParts.1 hC with ⟨hCP, hCy⟩ | rfl | rfl
    · exact h.dist B hBP C hCP hne p hp q hq
    · exact h.dist B hBP y hy hBy p hp q (hc.sub1 q hq)
    · exact h.dist B hBP y hy hBy p hp q (hc.sub2 q hq)
    · exact h.dist y hy C hCP (Ne.symm hCy) p (hc.sub1 p hp) q hq
    · exact absurd rfl hne
    · exact hx p hp q hq
    · exact h.dist y hy C hCP (Ne.symm hCy) p (hc.sub2 p hp) q hq
    · exact (hx q hq p hp).symm
    · exact absurd rfl hne
  · intro X hX B' hB'
    have old : (X ∈ st.work ∨ E X) → Uncut X B' := by
      intro hX p hp q hq
      obtain ⟨B, hB, hs⟩ := hold B' hB'
      exact h.uncut X hX B hB p (hs p hp) q (hs q hq)
    rcases hX with hX | hE
    · rcases mem_splitWork hX with hW | rfl | rfl
      · exact old (.inl hW)
      · exact uncut_of_block hP' (mem_splitParts.2 (.inr (.inl rfl))) hB'
      · exact uncut_of_block hP' (mem_splitParts.2 (.inr (.inr rfl))) hB'
    · exact old (.inr hE)

theorem round_distInv {a : Auto} {n : Nat} (hwf : WF a) (hco : CoAcc a) {st : HState} {k : Nat}
    {g : Block} (h : DistInv a (fun _ => False) st) (hg : st.work[k]? = some g) :
    DistInv a (fun _ => False) (round a (normSet (a.trans.map (·.1))) n st k g) := by
  -- while `g` is being processed it counts as a splitter, although it has left the work-list
  have := foldl_induct (Q := fun _ => DistInv a (· = g))
    (fun i _ st h => foldBody_preserves (i := i) (Q := DistInv a (· = g)) (fun st y h hy _ _ =>
      split_distInv (isCut_inter y _) h hy fun p hp q hq =>
        dist_of_cut hwf hco h.pinv h.dist (h.uncut g (.inr rfl)) (mem_inter.1 hp).2
          (mem_diff_inter.1 hq).2) st h)
    (List.range n) { st with work := removeNth st.work k } ?_
  · exact ⟨this.pinv, this.dist, fun X hX => this.uncut X (.inl (hX.resolve_right id))⟩
  · refine ⟨h.pinv, h.dist, ?_⟩
    intro X hX
    rcases hX with hX | rfl
    · exact h.uncut X (.inl (mem_of_mem_removeNth hX))
    · exact h.uncut X (.inl (List.mem_of_getElem? hg))

theorem dist_of_cls {a : Auto} (hwf : WF a) (hco : CoAcc a) {p q : Nat} (hp : p ∈ allStates a)
    (hq : q ∈ allStates a) (h : cls a p ≠ cls a q) : Dist a p q := by
  have zero_other : ∀ q, q ∈ allStates a → q ≠ 0 → Dist a 0 q := by
    intro q hq hq0
    obtain ⟨w, hw⟩ := hco q ((mem_allStates.1 hq).resolve_left hq0)
    rw [hwf.accFrom_eq_accC] at hw
    refine ⟨w, ?_⟩
    rw [accC_dead hwf.zero_not_acc, hw]
    simp
  by_cases hp0 : p = 0
  · subst hp0
    exact zero_other q hq fun e => h (e ▸ rfl)
  · by_cases hq0 : q = 0
    · subst hq0
      exact (zero_other p hp hp0).symm
    · refine ⟨[], fun e => h ?_⟩
      rw [accC_nil, accC_nil, Bool.eq_iff_iff] at e
      simp only [List.contains_iff_mem] at e
      simp only [cls, if_neg hp0, if_neg hq0, e]

theorem initParts_blocksDist {a : Auto} (hwf : WF a) (hco : CoAcc a) : BlocksDist a (initParts a) :=
  fun _ hB _ hC hne _ hp _ hq =>
    dist_of_cls hwf hco (initParts_sub hwf hB hp) (initParts_sub hwf hC hq)
      fun e => hne ((initParts_eq_iff hwf hB hC hp hq).2 e)

theorem partition_dist (σ : Schedule) (a : Auto) (P : List Block) (hwf : WF a) (hco : CoAcc a)
    (h : partition σ a = some P) : BlocksDist a P := by
  unfold partition at h
  simp only [Option.map_eq_some_iff] at h
  obtain ⟨st', hr, rfl⟩ := h
  have hP := initParts_PInv hwf
  have hI : DistInv a (fun _ => False) { parts := initParts a, work := initParts a } := by
    refine ⟨hP, initParts_blocksDist hwf hco, ?_⟩
    intro X hX B hB
    exact uncut_of_block hP (hX.resolve_right id) hB
  exact (refineLoop_preserves (fun _ _ _ h hg => round_distInv hwf hco h hg) hI hr).1.dist


/-- different states of the quotient are representatives of different blocks -/
theorem quot_dist {a : Auto} {P : List Block} (hP : PInv a P) (hD : BlocksDist a P) {r1 r2 : Nat}
    (h1 : QState P a r1) (h2 : QState P a r2) (hne : r1 ≠ r2) : Dist a r1 r2 := by
  obtain ⟨q1, hq1, rfl⟩ := QState_rep h1
  obtain ⟨q2, hq2, rfl⟩ := QState_rep h2
  have hq1 : q1 ∈ allStates a := mem_allStates.2 (.inr hq1)
  have hq2 : q2 ∈ allStates a := mem_allStates.2 (.inr hq2)
  obtain ⟨B1, hB1, _, hr1⟩ := rep_same hP hq1
  obtain ⟨B2, hB2, _, hr2⟩ := rep_same hP hq2
  have hB : B1 ≠ B2 := by
    intro e; subst e
    have := rep_eq hP ⟨B1, hB1, hr1, hr2⟩
    rw [rep_idem hP hq1, rep_idem hP hq2] at this
    exact hne this
  exact hD B1 hB1 B2 hB2 hB _ hr1 _ hr2

theorem renum_states {b : Auto} {q : Nat} (h : q ∈ (renum b).states) :
    ∃ r ∈ b.states, q = renumF b r := by
  rcases mem_states.1 h with h | ⟨t, ht, h⟩
  · exact ⟨b.start, mem_states.2 (.inl rfl), h⟩
  · have ht : t ∈ b.trans.map (fun t => (renumF b t.1, t.2.1, renumF b t.2.2)) := ht
    obtain ⟨s, hs, rfl⟩ := List.mem_map.1 ht
    rcases h with h | h
    · exact ⟨s.1, mem_states.2 (.inr ⟨s, hs, .inl rfl⟩), h⟩
    · exact ⟨s.2.2, mem_states.2 (.inr ⟨s, hs, .inr rfl⟩), h⟩

theorem renum_run (b : Auto) (w : List Nat) {q : Nat} (hq : q ∈ b.states) :
    (renum b).run (renumF b q) w = (b.run q w).map (renumF b) :=
  rename_run (b := b) (b' := renum b) (S := fun q => q ∈ b.states) (f := renumF b)
    (fun _ _ hx hy h => idx_inj _ hx hy h)
    (fun t ht => mem_states.2 (.inr ⟨t, ht, .inl rfl⟩))
    (fun t ht => mem_states.2 (.inr ⟨t, ht, .inr rfl⟩))
    rfl w q hq

theorem min_state_spec {a : Auto} {P : List Block} (hwf : WF a) (hP : PInv a P) (hS : Stable a P)
    {q : Nat} (hq : q ∈ (renum (quot P a)).states) :
    ∃ r, QState P a r ∧ q = renumF (quot P a) r ∧
      ∀ w, accFrom (renum (quot P a)) q w = accC a r w := by
  obtain ⟨r, hr, rfl⟩ := renum_states hq
  exact ⟨r, quot_states_QState hr, rfl, min_accFrom hwf hP hS hr⟩

/-- **The minimised automaton is reduced**, for every schedule: no two different states accept
the same words.  `accFrom m q w` = "`m.run q w` ends in an accepting state".

`CoAcc a` cannot be dropped: in
`{start := 1, trans := [(1,0,2),(1,1,3),(1,2,4),(3,0,3),(4,0,4),(4,1,4)], acc := [2]}` the states
3 and 4 accept nothing, the splitter `[0]` on input 1 separates them (3 goes to the dead state,
4 does not), both have outgoing transitions and survive the clean-up passes: the result has two
states that accept no word (see `exNotReduced` below). -/
theorem minimize_reduced (σ : Schedule) (a m : Auto) (hwf : WF a) (hco : CoAcc a)
    (h : minimize σ a = some m) :
    ∀ p ∈ m.states, ∀ q ∈ m.states, p ≠ q → ∃ w : List Nat, accFrom m p w ≠ accFrom m q w := by
  obtain ⟨P, hpart, hP, hS, rfl⟩ := minimize_some hwf h
  have hD := partition_dist σ a P hwf hco hpart
  intro p hp q hq hne
  obtain ⟨r1, hQ1, e1, h1⟩ := min_state_spec hwf hP hS hp
  obtain ⟨r2, hQ2, e2, h2⟩ := min_state_spec hwf hP hS hq
  obtain ⟨w, hw⟩ := quot_dist hP hD hQ1 hQ2 fun e => hne (by rw [e1, e2, e])
  exact ⟨w, by rw [h1, h2]; exact hw⟩

section AccessQ
variable {a : Auto} {P : List Block} (hwf : WF a) (hP : PInv a P) (hS : Stable a P)
include hwf hP hS

theorem quot_accessible (hacc : Access a) :
    ∀ r ∈ (quot P a).states, ∃ u, (quot P a).run (quot P a).start u = some r := by
  intro r hr
  have hstart : a.start ∈ allStates a := mem_allStates.2 (.inr (mem_states.2 (.inl rfl)))
  have main : ∀ q0 ∈ a.states, (repOf P q0 ∈ qAccPass1 P a ∨ repOf P q0 ∈ qSources P a) →
      ∃ u, (quot P a).run (qStart P a) u = some (repOf P q0) := by
    intro q0 hq0 keep
    obtain ⟨w, hw⟩ := hacc q0 hq0
    exact quot_reach hwf hP hS w a.start q0 hw hstart (.inl rfl) ⟨[], rfl⟩ keep
  rcases mem_states.1 hr with h | ⟨t, ht, h | h⟩
  · exact ⟨[], by rw [h]; rfl⟩
  · have ht : t ∈ qTransPass2 P a := ht
    have ht2 := (mem_qTransPass2.1 ht).1
    have hsrc : r ∈ qSources P a := mem_qSources.2 ⟨t, ht2, h.symm⟩
    rcases (mem_qTransPass1.1 ht2).2 with e | e
    · exact ⟨[], by rw [h, e]; rfl⟩
    · obtain ⟨s, hs, e⟩ := mem_qTargets.1 e
      rw [← h] at e
      rw [e] at hsrc ⊢
      exact main s.2.2 (mem_states.2 (.inr ⟨s, hs, .inr rfl⟩)) (.inr hsrc)
  · have ht : t ∈ qTransPass2 P a := ht
    have keep := (mem_qTransPass2.1 ht).2
    obtain ⟨s, hs, e⟩ := mem_qTransRaw.1 (mem_qTransPass1.1 (mem_qTransPass2.1 ht).1).1
    have e : r = repOf P s.2.2 := by rw [h, e]
    rw [← h] at keep
    rw [e] at keep ⊢
    exact main s.2.2 (mem_states.2 (.inr ⟨s, hs, .inr rfl⟩)) keep

end AccessQ

/-- **The minimised automaton is accessible**, for every schedule: every state is reachable from
the start state.

`Access a` (which subsumes the fourth clause of `WF a`) cannot be dropped: the first clean-up pass
keeps the transitions out of *targets* of transitions, not out of reachable states.  In
`{start := 1, trans := [(1,0,2),(7,0,8),(8,0,7),(7,1,2)], acc := [2]}` the states 7 and 8 are
targets of each other, are kept, and are unreachable (see `exNotAccessible` below). -/
theorem minimize_accessible (σ : Schedule) (a m : Auto) (hwf : WF a) (hacc : Access a)
    (h : minimize σ a = some m) :
    ∀ q ∈ m.states, ∃ w : List Nat, m.run m.start w = some q := by
  obtain ⟨P, _, hP, hS, rfl⟩ := minimize_some hwf h
  intro q hq
  obtain ⟨r, hr, rfl⟩ := renum_states hq
  obtain ⟨u, hu⟩ := quot_accessible hwf hP hS hacc r hr
  refine ⟨u, ?_⟩
  show (renum (quot P a)).run (renumF (quot P a) (quot P a).start) u = _
  rw [renum_run _ u (mem_states.2 (.inl rfl)), hu]
  rfl

/-- well-formed and accessible, but the states 3 and 4 cannot reach the accepting state 2 -/
def exNotReduced : Auto :=
  { start := 1, trans := [(1,0,2),(1,1,3),(1,2,4),(3,0,3),(4,0,4),(4,1,4)], acc := [2],
    inputs := [.star, .star, .star] }

theorem exNotReduced_WF : WF exNotReduced := by
  refine ⟨by decide, by decide, by decide, ?_⟩
  intro q hq
  have : q = 2 := by simpa [exNotReduced] using hq
  subst this
  exact ⟨[0], rfl⟩

theorem exNotReduced_access : Access exNotReduced := by
  intro q hq
  have hs : exNotReduced.states = [1, 2, 3, 4] := by decide
  rw [hs] at hq
  simp only [List.mem_cons, List.not_mem_nil, or_false] at hq
  rcases hq with rfl | rfl | rfl | rfl
  · exact ⟨[], rfl⟩
  · exact ⟨[0], rfl⟩
  · exact ⟨[1], rfl⟩
  · exact ⟨[2], rfl⟩

theorem exNotReduced_min :
    (minimize fifo exNotReduced).map (fun m => (m.start, m.trans, m.acc)) =
      some (0, [(0,0,1),(0,1,2),(0,2,3),(2,0,2),(3,0,3),(3,1,3)], [1]) := by decide

theorem exNotReduced_dead (ins : List Inp) : ∀ (w : List Nat),
    accFrom { start := 0, trans := [(0,0,1),(0,1,2),(0,2,3),(2,0,2),(3,0,3),(3,1,3)], acc := [1],
              inputs := ins } 2 w = false ∧
    accFrom { start := 0, trans := [(0,0,1),(0,1,2),(0,2,3),(2,0,2),(3,0,3),(3,1,3)], acc := [1],
              inputs := ins } 3 w = false
  | [] => ⟨rfl, rfl⟩
  | i :: w => by
    obtain ⟨h2, h3⟩ := exNotReduced_dead ins w
    rw [accFrom_cons, accFrom_cons]
    match i with
    | 0 => exact ⟨h2, h3⟩
    | 1 => exact ⟨rfl, h3⟩
    | n + 2 =>
      constructor
      · simp [Auto.step]
      · simp [Auto.step]

/-- **`CoAcc` is needed for `minimize_reduced`**: the minimised automaton of `exNotReduced` (a
well-formed, accessible automaton) has two different states, 2 and 3, that accept the same words
(none). -/
theorem exNotReduced_spec : ∀ m, minimize fifo exNotReduced = some m →
    2 ∈ m.states ∧ 3 ∈ m.states ∧ ∀ w, accFrom m 2 w = accFrom m 3 w := by
  intro m hm
  have h := exNotReduced_min
  rw [hm] at h
  obtain ⟨s, t, ac, ins⟩ := m
  simp only [Option.map_some, Option.some.injEq, Prod.mk.injEq] at h
  obtain ⟨rfl, rfl, rfl⟩ := h
  refine ⟨mem_states.2 (.inr ⟨(2, 0, 2), by simp, .inl rfl⟩),
    mem_states.2 (.inr ⟨(3, 0, 3), by simp, .inl rfl⟩), fun w => ?_⟩
  obtain ⟨h2, h3⟩ := exNotReduced_dead ins w
  rw [h2, h3]

/-- well-formed and co-accessible, but the states 7 and 8 are not reachable from the start -/
def exNotAccessible : Auto :=
  { start := 1, trans := [(1,0,2),(7,0,8),(8,0,7),(7,1,2)], acc := [2],
    inputs := [.star, .star] }

theorem exNotAccessible_WF : WF exNotAccessible := by
  refine ⟨by decide, by decide, by decide, ?_⟩
  intro q hq
  have : q = 2 := by simpa [exNotAccessible] using hq
  subst this
  exact ⟨[0], rfl⟩

theorem exNotAccessible_coacc : CoAcc exNotAccessible := by
  intro q hq
  have hs : exNotAccessible.states = [1, 2, 7, 8] := by decide
  rw [hs] at hq
  simp only [List.mem_cons, List.not_mem_nil, or_false] at hq
  rcases hq with rfl | rfl | rfl | rfl
  · exact ⟨[0], rfl⟩
  · exact ⟨[], rfl⟩
  · exact ⟨[1], rfl⟩
  · exact ⟨[0, 1], rfl⟩

theorem exNotAccessible_min :
    (minimize fifo exNotAccessible).map (fun m => (m.start, m.trans, m.acc)) =
      some (0, [(0,0,1),(2,0,3),(3,0,2),(2,1,1)], [1]) := by decide

theorem exNotAccessible_closed (ins : List Inp) : ∀ (w : List Nat) (q q' : Nat), (q = 0 ∨ q = 1) →
    Auto.run { start := 0, trans := [(0,0,1),(2,0,3),(3,0,2),(2,1,1)], acc := [1],
               inputs := ins } q w = some q' → (q' = 0 ∨ q' = 1)
  | [], q, q', hq, h => by
    simp only [Auto.run, Option.some.injEq] at h
    rw [← h]; exact hq
  | i :: w, q, q', hq, h => by
    simp only [Auto.run] at h
    rcases hq with rfl | rfl
    · match i with
      | 0 => exact exNotAccessible_closed ins w 1 q' (.inr rfl) h
      | n + 1 => simp [Auto.step] at h
    · simp [Auto.step] at h

/-- **`Access` is needed for `minimize_accessible`**: the minimised automaton of `exNotAccessible`
(a well-formed, co-accessible automaton) has a state, 2, that is not reachable from the start. -/
theorem exNotAccessible_spec : ∀ m, minimize fifo exNotAccessible = some m →
    2 ∈ m.states ∧ ∀ w, m.run m.start w ≠ some 2 := by
  intro m hm
  have h := exNotAccessible_min
  rw [hm] at h
  obtain ⟨s, t, ac, ins⟩ := m
  simp only [Option.map_some, Option.some.injEq, Prod.mk.injEq] at h
  obtain ⟨rfl, rfl, rfl⟩ := h
  refine ⟨mem_states.2 (.inr ⟨(2, 0, 3), by simp, .inl rfl⟩), fun w hw => ?_⟩
  have := exNotAccessible_closed ins w 0 2 (.inl rfl) hw
  omega

end Complgen.Min
