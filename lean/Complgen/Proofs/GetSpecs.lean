/-
The model of `Grammar::get_specializations` (parse.rs).  Its first loop runs through the shell-specific
definitions in source order, records the commands defined for the target shell and stops at the first
definition with a mistake; its second loop records the plain definitions that stand behind them.  Both are
analysed once: the list of definitions is split at the first mistake (`clean_or_fault`), the loop runs through
the part before it (`loop1_append`) and one round decides the rest (`loop1_cons`).
-/
import Complgen.Proofs.Validate
namespace Complgen.Check

/-- a shell-specific definition: name, its span, the shell name after `@`, its span, the right-hand side -/
abbrev SpecDef := String × Span × String × Span × Expr

def isCmdExpr : Expr → Bool
  | .cmd .. => true
  | _ => false

def isCmdSpec (x : String × Span × String × Span × Expr) : Bool :=
  match x.2.2.2.2 with
  | .cmd .. => true
  | _ => false

def knownShell (x : String × Span × String × Span × Expr) : Bool := (Shell.ofName? x.2.2.1).isSome

def forTarget (target : Shell) (x : String × Span × String × Span × Expr) : Bool :=
  Shell.ofName? x.2.2.1 == some target

theorem forTarget_iff (target : Shell) (x : SpecDef) :
    forTarget target x = true ↔ Shell.ofName? x.2.2.1 = some target := by
  unfold forTarget
  cases Shell.ofName? x.2.2.1 with
  | none => simp
  | some a => cases a <;> cases target <;> decide

def targetSpecNames (g : Grammar) (sh : Shell) : List String := ((specDefs g).filter (forTarget sh)).map (·.1)

def TargetSpecsDistinct (g : Grammar) (sh : Shell) : Prop :=
  (((specDefs g).filter (forTarget sh)).map (·.1)).Nodup

theorem targetSpecsDistinct_iff (g : Grammar) (sh : Shell) :
    TargetSpecsDistinct g sh ↔ (targetSpecNames g sh).Nodup := Iff.rfl

def CleanL (sh : Shell) (l : List SpecDef) : Prop :=
  (∀ y ∈ l, isCmdSpec y = true) ∧ (∀ y ∈ l, knownShell y = true) ∧ ((l.filter (forTarget sh)).map (·.1)).Nodup

/-- the mistakes the first loop finds in `x` when it has passed the definitions `pre` -/
def BadAt (sh : Shell) (pre : List SpecDef) (x : SpecDef) : Prop :=
  isCmdSpec x = false ∨ knownShell x = false ∨
    (forTarget sh x = true ∧ x.1 ∈ (pre.filter (forTarget sh)).map (·.1))

def SpecsClean (g : Grammar) (sh : Shell) : Prop :=
  (∀ x ∈ specDefs g, isCmdSpec x = true) ∧ (∀ x ∈ specDefs g, knownShell x = true) ∧ TargetSpecsDistinct g sh

theorem specsClean_iff (g : Grammar) (sh : Shell) : SpecsClean g sh ↔ CleanL sh (specDefs g) := Iff.rfl

def FirstSpecFault (g : Grammar) (sh : Shell) (x : SpecDef) : Prop :=
  ∃ pre post, specDefs g = pre ++ x :: post ∧
    (∀ y ∈ pre, isCmdSpec y = true) ∧ (∀ y ∈ pre, knownShell y = true) ∧
    ((pre.filter (forTarget sh)).map (·.1)).Nodup ∧
    (isCmdSpec x = false ∨ knownShell x = false ∨
      (forTarget sh x = true ∧ x.1 ∈ (pre.filter (forTarget sh)).map (·.1)))

theorem firstSpecFault_iff (g : Grammar) (sh : Shell) (x : SpecDef) :
    FirstSpecFault g sh x ↔ ∃ pre post, specDefs g = pre ++ x :: post ∧ CleanL sh pre ∧ BadAt sh pre x :=
  ⟨fun ⟨pre, post, he, h1, h2, h3, hb⟩ => ⟨pre, post, he, ⟨h1, h2, h3⟩, hb⟩,
   fun ⟨pre, post, he, ⟨h1, h2, h3⟩, hb⟩ => ⟨pre, post, he, h1, h2, h3, hb⟩⟩

theorem cleanL_snoc {sh : Shell} {pre : List SpecDef} {x : SpecDef} (h : CleanL sh pre) (hb : ¬ BadAt sh pre x) :
    CleanL sh (pre ++ [x]) := by
  simp only [BadAt, not_or, Bool.not_eq_false, not_and] at hb
  obtain ⟨h1, h2, h3⟩ := h
  refine ⟨fun y hy => ?_, fun y hy => ?_, ?_⟩
  · rcases List.mem_append.mp hy with hy | hy
    · exact h1 y hy
    · rw [List.mem_singleton.mp hy]; exact hb.1
  · rcases List.mem_append.mp hy with hy | hy
    · exact h2 y hy
    · rw [List.mem_singleton.mp hy]; exact hb.2.1
  · rw [List.filter_append, List.map_append]
    cases hft : forTarget sh x with
    | false => simpa [List.filter_cons, hft] using h3
    | true =>
      simp only [List.filter_cons, hft, if_true, List.filter_nil, List.map_cons, List.map_nil]
      exact List.nodup_append.mpr ⟨h3, by simp, fun a ha b hb' e =>
        hb.2.2 hft (List.mem_singleton.mp hb' ▸ e ▸ ha)⟩

theorem clean_or_fault (sh : Shell) : ∀ (l pre : List SpecDef), CleanL sh pre →
    CleanL sh (pre ++ l) ∨ ∃ p x post, pre ++ l = p ++ x :: post ∧ CleanL sh p ∧ BadAt sh p x
  | [], pre, h => .inl (by rwa [List.append_nil])
  | x :: l, pre, h => by
    by_cases hb : BadAt sh pre x
    · exact .inr ⟨pre, x, l, rfl, h, hb⟩
    · have := clean_or_fault sh l (pre ++ [x]) (cleanL_snoc h hb)
      rwa [← List.append_cons] at this

theorem specsClean_or_fault (g : Grammar) (sh : Shell) : SpecsClean g sh ∨ ∃ x, FirstSpecFault g sh x :=
  (clean_or_fault sh (specDefs g) [] ⟨by simp, by simp, by simp⟩).imp (specsClean_iff g sh).mpr
    fun ⟨p, x, post, he, hp, hb⟩ => ⟨x, (firstSpecFault_iff g sh x).mpr ⟨p, post, he, hp, hb⟩⟩

theorem firstSpecFault_mem (g : Grammar) (sh : Shell) (x : SpecDef) (h : FirstSpecFault g sh x) : x ∈ specDefs g := by
  obtain ⟨pre, post, he, _⟩ := h
  rw [he]; simp

theorem fault_dup_not_distinct (g : Grammar) (sh : Shell) (x : SpecDef) (h : FirstSpecFault g sh x)
    (hc : isCmdSpec x = true) (hk : knownShell x = true) : ¬ TargetSpecsDistinct g sh := by
  intro c3
  obtain ⟨pre, post, he, _, hb⟩ := (firstSpecFault_iff g sh x).mp h
  rcases hb with h5 | h5 | ⟨h5, h6⟩
  · simp [hc] at h5
  · simp [hk] at h5
  · rw [targetSpecsDistinct_iff, targetSpecNames, he] at c3
    simp only [List.filter_append, List.filter_cons, h5, if_true, List.map_append, List.map_cons] at c3
    exact (List.nodup_append.mp c3).2.2 x.1 h6 x.1 (by simp) rfl

theorem not_clean_of_fault (g : Grammar) (sh : Shell) (x : SpecDef) (h : FirstSpecFault g sh x) :
    ¬ SpecsClean g sh :=
  fun ⟨c1, c2, c3⟩ =>
    fault_dup_not_distinct g sh x h (c1 x (firstSpecFault_mem g sh x h)) (c2 x (firstSpecFault_mem g sh x h)) c3

/-- the entry the first loop records for a command definition -/
def toSpec (x : SpecDef) : String × UserSpec :=
  (x.1, ⟨match x.2.2.2.2 with | .cmd c _ _ _ => c | _ => "", x.2.1, false⟩)

theorem map_toSpec_keys (l : List SpecDef) : (l.map toSpec).map (·.1) = l.map (·.1) :=
  List.map_map

theorem loop1_cons (target : Shell) (x : SpecDef) (rest : List SpecDef) (acc : AList UserSpec) :
    getSpecializations.loop1 target (x :: rest) acc =
      if isCmdSpec x = false then .err .nonCommandSpecialization [x.2.2.2.2.span]
      else if knownShell x = false then .err .unknownShell [x.2.2.2.1]
      else if forTarget target x = false then getSpecializations.loop1 target rest acc
      else match acc.get? x.1 with
        | some prev => .err .duplicateNonterminalDefinition [prev.span, x.2.1]
        | none => getSpecializations.loop1 target rest (acc ++ [toSpec x]) := by
  obtain ⟨n, s, sh, ss, rhs⟩ := x
  cases rhs with
  | cmd c a l sp =>
    cases ho : Shell.ofName? sh with
    | none =>
      conv => lhs; unfold getSpecializations.loop1
      simp only [isCmdSpec, knownShell, ho]
      rfl
    | some shell =>
      conv => lhs; unfold getSpecializations.loop1
      have hb : (some shell == some target) = (shell == target) := rfl
      simp only [isCmdSpec, knownShell, forTarget, toSpec, ho, hb, bne]
      by_cases h : (shell == target) = true
      · simp only [h]; rfl
      · simp [h]
  | _ => rfl

theorem loop1_append (target : Shell) : ∀ (pre rest : List SpecDef) (acc : AList UserSpec),
    (∀ y ∈ pre, isCmdSpec y = true) → (∀ y ∈ pre, knownShell y = true) →
    (acc.map (·.1) ++ (pre.filter (forTarget target)).map (·.1)).Nodup →
    getSpecializations.loop1 target (pre ++ rest) acc =
      getSpecializations.loop1 target rest (acc ++ (pre.filter (forTarget target)).map toSpec)
  | [], rest, acc, _, _, _ => by simp
  | x :: pre, rest, acc, hc, hk, hnd => by
    have ih := loop1_append target pre rest
    have hc' : ∀ y ∈ pre, isCmdSpec y = true := fun y hy => hc y (List.mem_cons_of_mem _ hy)
    have hk' : ∀ y ∈ pre, knownShell y = true := fun y hy => hk y (List.mem_cons_of_mem _ hy)
    rw [List.cons_append, loop1_cons, if_neg (ne_false_of_eq_true (hc x List.mem_cons_self)),
      if_neg (ne_false_of_eq_true (hk x List.mem_cons_self))]
    cases hft : forTarget target x with
    | false =>
      rw [List.filter_cons_of_neg (by simp [hft])] at hnd ⊢
      rw [if_pos rfl]
      exact ih acc hc' hk' hnd
    | true =>
      rw [List.filter_cons_of_pos hft] at hnd ⊢
      have hx : x.1 ∉ acc.map (·.1) := fun hm =>
        (List.nodup_append.mp hnd).2.2 x.1 hm x.1 (by simp) rfl
      rw [if_neg (by simp), (get?_none_iff acc x.1).mpr hx]
      simp only
      rw [ih (acc ++ [toSpec x]) hc' hk' (by simpa [toSpec] using hnd)]
      simp

theorem loop1_clean_prefix (target : Shell) (pre rest : List SpecDef) (h : CleanL target pre) :
    getSpecializations.loop1 target (pre ++ rest) [] =
      getSpecializations.loop1 target rest ((pre.filter (forTarget target)).map toSpec) := by
  rw [loop1_append target pre rest [] h.1 h.2.1 (by simpa using h.2.2), List.nil_append]

theorem loop1_of_fault (target : Shell) (pre : List SpecDef) (x : SpecDef) (post : List SpecDef)
    (hp : CleanL target pre) (hb : BadAt target pre x) :
    (isCmdSpec x = false → getSpecializations.loop1 target (pre ++ x :: post) [] =
      .err .nonCommandSpecialization [x.2.2.2.2.span]) ∧
    (isCmdSpec x = true → knownShell x = false →
      getSpecializations.loop1 target (pre ++ x :: post) [] = .err .unknownShell [x.2.2.2.1]) ∧
    (isCmdSpec x = true → knownShell x = true →
      ∃ spans, getSpecializations.loop1 target (pre ++ x :: post) [] =
        .err .duplicateNonterminalDefinition spans) := by
  rw [loop1_clean_prefix target pre (x :: post) hp, loop1_cons]
  refine ⟨fun hc => by rw [if_pos hc], fun hc hk => by rw [if_neg (ne_false_of_eq_true hc), if_pos hk],
    fun hc hk => ?_⟩
  rcases hb with hb | hb | ⟨hft, hm⟩
  · rw [hc] at hb; cases hb
  · rw [hk] at hb; cases hb
  · rw [if_neg (ne_false_of_eq_true hc), if_neg (ne_false_of_eq_true hk), if_neg (ne_false_of_eq_true hft)]
    cases hg : AList.get? ((pre.filter (forTarget target)).map toSpec) x.1 with
    | some prev => exact ⟨_, rfl⟩
    | none =>
      exact absurd (map_toSpec_keys _ ▸ hm) ((get?_none_iff _ _).mp hg)

theorem loop1_of_clean (target : Shell) (l : List SpecDef) (h : CleanL target l) :
    getSpecializations.loop1 target l [] = .ok ((l.filter (forTarget target)).map toSpec) := by
  have := loop1_clean_prefix target l [] h
  rw [List.append_nil] at this
  rw [this]
  unfold getSpecializations.loop1
  rfl

theorem loop1_ok_inv (target : Shell) (l : List SpecDef) (r : AList UserSpec)
    (h : getSpecializations.loop1 target l [] = .ok r) :
    CleanL target l ∧ r = (l.filter (forTarget target)).map toSpec := by
  rcases clean_or_fault target l [] ⟨by simp, by simp, by simp⟩ with hc | ⟨p, x, post, he, hp, hb⟩
  · rw [List.nil_append] at hc
    rw [loop1_of_clean target l hc] at h
    exact ⟨hc, (Outcome.ok.inj h).symm⟩
  · rw [List.nil_append] at he
    obtain ⟨f1, f2, f3⟩ := loop1_of_fault target p x post hp hb
    rw [he] at h
    cases hc : isCmdSpec x with
    | false => rw [f1 hc] at h; cases h
    | true =>
      cases hk : knownShell x with
      | false => rw [f2 hc hk] at h; cases h
      | true => obtain ⟨spans, e⟩ := f3 hc hk; rw [e] at h; cases h

/-- a plain definition of a name that also has a definition for the target shell serves as the fallback of
that definition; the code demands that it is an external command as well -/
def ShadowedPlainAreCmds (g : Grammar) (sh : Shell) : Prop :=
  ∀ p ∈ plainDefs g, p.1 ∈ targetSpecNames g sh → isCmdExpr p.2.2 = true

theorem not_shadowed_witness (g : Grammar) (sh : Shell) (h : ¬ ShadowedPlainAreCmds g sh) :
    ∃ p ∈ plainDefs g, p.1 ∈ targetSpecNames g sh ∧ isCmdExpr p.2.2 = false := by
  simpa only [ShadowedPlainAreCmds, Classical.not_forall, Classical.not_imp, Bool.not_eq_true, exists_prop] using h

theorem loop2_cons_skip (specs : AList UserSpec) (n : String) (s : Span) (rhs : Expr)
    (rest : List (String × Span × Expr)) (acc : AList (String × Span)) (h : specs.contains n = false) :
    getSpecializations.loop2 specs ((n, s, rhs) :: rest) acc = getSpecializations.loop2 specs rest acc := by
  conv => lhs; unfold getSpecializations.loop2
  simp [h]

theorem loop2_cons_cmd (specs : AList UserSpec) (n : String) (s : Span) (c : String) (a : Bool) (l : Nat) (sp : Span)
    (rest : List (String × Span × Expr)) (acc : AList (String × Span)) (h : specs.contains n = true)
    (h0 : acc.get? n = none) :
    getSpecializations.loop2 specs ((n, s, .cmd c a l sp) :: rest) acc =
      getSpecializations.loop2 specs rest (acc ++ [(n, (c, s))]) := by
  conv => lhs; unfold getSpecializations.loop2
  simp [h, h0]

theorem loop2_cons_noncmd (specs : AList UserSpec) (n : String) (s : Span) (rhs : Expr)
    (rest : List (String × Span × Expr)) (acc : AList (String × Span)) (h : specs.contains n = true)
    (hc : isCmdExpr rhs = false) :
    getSpecializations.loop2 specs ((n, s, rhs) :: rest) acc = .err .nonCommandSpecialization [rhs.span] := by
  conv => lhs; unfold getSpecializations.loop2
  cases rhs with
  | cmd c a l sp => exact absurd hc (by simp [isCmdExpr])
  | _ => simp [h]

theorem isCmdExpr_true (e : Expr) (h : isCmdExpr e = true) : ∃ c a l sp, e = .cmd c a l sp := by
  cases e with
  | cmd c a l sp => exact ⟨c, a, l, sp, rfl⟩
  | _ => exact Bool.noConfusion h

theorem loop2_ok (specs : AList UserSpec) : ∀ (l : List (String × Span × Expr)) (acc : AList (String × Span)),
    (∀ p ∈ l, specs.contains p.1 = true → isCmdExpr p.2.2 = true) → (l.map (·.1)).Nodup →
    (∀ p ∈ l, p.1 ∉ acc.map (·.1)) → ∃ fbs, getSpecializations.loop2 specs l acc = .ok fbs
  | [], acc, _, _, _ => ⟨acc, by unfold getSpecializations.loop2; rfl⟩
  | (n, s, rhs) :: rest, acc, hc, hnd, hfresh => by
    have hc' : ∀ p ∈ rest, specs.contains p.1 = true → isCmdExpr p.2.2 = true :=
      fun p hp => hc p (List.mem_cons_of_mem _ hp)
    have hnd' := List.nodup_cons.mp hnd
    by_cases hcon : specs.contains n = true
    · obtain ⟨c, a, l, sp, rfl⟩ := isCmdExpr_true rhs (hc _ List.mem_cons_self hcon)
      rw [loop2_cons_cmd specs n s c a l sp rest acc hcon ((get?_none_iff acc n).mpr (hfresh _ List.mem_cons_self))]
      apply loop2_ok specs rest _ hc' hnd'.2
      intro p hp hm
      simp only [List.map_append, List.map_cons, List.map_nil, List.mem_append, List.mem_singleton] at hm
      rcases hm with hm | hm
      · exact hfresh p (List.mem_cons_of_mem _ hp) hm
      · exact hnd'.1 (List.mem_map.mpr ⟨p, hp, hm⟩)
    · rw [loop2_cons_skip specs n s rhs rest acc (by simpa using hcon)]
      exact loop2_ok specs rest acc hc' hnd'.2 (fun p hp => hfresh p (List.mem_cons_of_mem _ hp))

theorem loop2_noncmd (specs : AList UserSpec) : ∀ (l : List (String × Span × Expr)) (acc : AList (String × Span)),
    (l.map (·.1)).Nodup → (∀ p ∈ l, p.1 ∉ acc.map (·.1)) →
    (∃ p ∈ l, specs.contains p.1 = true ∧ isCmdExpr p.2.2 = false) →
    ∃ spans, getSpecializations.loop2 specs l acc = .err .nonCommandSpecialization spans
  | [], acc, _, _, h => by obtain ⟨p, hp, _⟩ := h; simp at hp
  | (n, s, rhs) :: rest, acc, hnd, hfresh, hex => by
    have hnd' := List.nodup_cons.mp hnd
    by_cases hcon : specs.contains n = true
    · by_cases hcmd : isCmdExpr rhs = true
      · obtain ⟨c, a, l, sp, rfl⟩ := isCmdExpr_true rhs hcmd
        rw [loop2_cons_cmd specs n s c a l sp rest acc hcon ((get?_none_iff acc n).mpr (hfresh _ List.mem_cons_self))]
        apply loop2_noncmd specs rest _ hnd'.2
        · intro p hp hm
          simp only [List.map_append, List.map_cons, List.map_nil, List.mem_append, List.mem_singleton] at hm
          rcases hm with hm | hm
          · exact hfresh p (List.mem_cons_of_mem _ hp) hm
          · exact hnd'.1 (List.mem_map.mpr ⟨p, hp, hm⟩)
        · obtain ⟨p, hp, hp1, hp2⟩ := hex
          rcases List.mem_cons.mp hp with rfl | hp
          · simp [isCmdExpr] at hp2
          · exact ⟨p, hp, hp1, hp2⟩
      · exact ⟨_, loop2_cons_noncmd specs n s rhs rest acc hcon (by simpa using hcmd)⟩
    · rw [loop2_cons_skip specs n s rhs rest acc (by simpa using hcon)]
      apply loop2_noncmd specs rest acc hnd'.2 (fun p hp => hfresh p (List.mem_cons_of_mem _ hp))
      obtain ⟨p, hp, hp1, hp2⟩ := hex
      rcases List.mem_cons.mp hp with rfl | hp
      · exact absurd hp1 hcon
      · exact ⟨p, hp, hp1, hp2⟩

theorem loop2_keys (specs : AList UserSpec) :
    ∀ (l : List (String × Span × Expr)) (acc r : AList (String × Span)),
    getSpecializations.loop2 specs l acc = .ok r →
    ∀ k, (r.get? k).isSome → (acc.get? k).isSome ∨ k ∈ l.map (·.1)
  | [], acc, r, h, k, hk => by
    unfold getSpecializations.loop2 at h
    simp only [Outcome.ok.injEq] at h
    subst h; exact .inl hk
  | (n, s, rhs) :: rest, acc, r, h, k, hk => by
    unfold getSpecializations.loop2 at h
    split at h
    · rcases loop2_keys specs rest acc r h k hk with h' | h'
      · exact .inl h'
      · exact .inr (List.mem_cons_of_mem _ h')
    · split at h
      · split at h
        · cases h
        · rcases loop2_keys specs rest _ r h k hk with h' | h'
          · by_cases e : k = n
            · right; simp [e]
            · left; rw [get?_append_ne _ _ _ _ e] at h'; exact h'
          · exact .inr (List.mem_cons_of_mem _ h')
      · cases h

theorem getSpecializations_of_loop1_err (g : Grammar) (target : Shell) (c : ErrClass) (s : List Span)
    (h : getSpecializations.loop1 target (specDefs g) [] = .err c s) :
    getSpecializations g target = .err c s := by
  unfold getSpecializations
  rw [h]

theorem getSpecializations_of_loop1_ok (g : Grammar) (target : Shell) (specs : AList UserSpec)
    (h : getSpecializations.loop1 target (specDefs g) [] = .ok specs) :
    getSpecializations g target =
      match getSpecializations.loop2 specs (plainDefs g) [] with
      | .err c s => .err c s
      | .crash s => .crash s
      | .ok fbs => .ok (specs, fbs.map (fun p => (p.1, p.2.1))) := by
  unfold getSpecializations
  rw [h]
  rfl

def specList (g : Grammar) (sh : Shell) : AList UserSpec := ((specDefs g).filter (forTarget sh)).map toSpec

theorem specList_keys (g : Grammar) (sh : Shell) : (specList g sh).map (·.1) = targetSpecNames g sh :=
  map_toSpec_keys _

theorem getSpecializations_clean (g : Grammar) (sh : Shell) (hnd : ((plainDefs g).map (·.1)).Nodup)
    (hc : SpecsClean g sh) (hs : ShadowedPlainAreCmds g sh) :
    ∃ specs fbs, getSpecializations g sh = .ok (specs, fbs) := by
  obtain ⟨fbs, h2⟩ := loop2_ok (specList g sh) (plainDefs g) []
    (fun p hp hcon => hs p hp (by rw [← specList_keys]; exact (contains_iff_key _ p.1).mp hcon)) hnd (by simp)
  refine ⟨specList g sh, fbs.map (fun p => (p.1, p.2.1)), ?_⟩
  rw [getSpecializations_of_loop1_ok g sh (specList g sh) (loop1_of_clean sh (specDefs g) ((specsClean_iff g sh).mp hc)), h2]

theorem getSpecializations_shadow (g : Grammar) (sh : Shell) (hnd : ((plainDefs g).map (·.1)).Nodup)
    (hc : SpecsClean g sh) (hs : ¬ ShadowedPlainAreCmds g sh) :
    ∃ spans, getSpecializations g sh = .err .nonCommandSpecialization spans := by
  obtain ⟨p, hp, hm, hb⟩ := not_shadowed_witness g sh hs
  obtain ⟨spans, h2⟩ := loop2_noncmd (specList g sh) (plainDefs g) [] hnd (by simp)
    ⟨p, hp, (contains_iff_key _ p.1).mpr (by rw [specList_keys]; exact hm), hb⟩
  refine ⟨spans, ?_⟩
  rw [getSpecializations_of_loop1_ok g sh (specList g sh) (loop1_of_clean sh (specDefs g) ((specsClean_iff g sh).mp hc)), h2]

theorem getSpecializations_fault (g : Grammar) (sh : Shell) (x : SpecDef) (hf : FirstSpecFault g sh x) :
    (isCmdSpec x = false → getSpecializations g sh = .err .nonCommandSpecialization [x.2.2.2.2.span]) ∧
    (isCmdSpec x = true → knownShell x = false → getSpecializations g sh = .err .unknownShell [x.2.2.2.1]) ∧
    (isCmdSpec x = true → knownShell x = true →
      ∃ spans, getSpecializations g sh = .err .duplicateNonterminalDefinition spans) := by
  obtain ⟨pre, post, he, hp, hb⟩ := (firstSpecFault_iff g sh x).mp hf
  obtain ⟨f1, f2, f3⟩ := loop1_of_fault sh pre x post hp hb
  rw [← he] at f1 f2 f3
  exact ⟨fun hc => getSpecializations_of_loop1_err g sh _ _ (f1 hc),
    fun hc hk => getSpecializations_of_loop1_err g sh _ _ (f2 hc hk),
    fun hc hk => (f3 hc hk).imp fun _ => getSpecializations_of_loop1_err g sh _ _⟩

theorem getSpecializations_ok_inv (g : Grammar) (sh : Shell) (specs : AList UserSpec) (fbs : AList String)
    (h : getSpecializations g sh = .ok (specs, fbs)) :
    specs = specList g sh ∧ (∀ x ∈ specDefs g, isCmdSpec x = true) ∧
    (∀ k, (fbs.get? k).isSome → k ∈ (plainDefs g).map (·.1)) := by
  unfold getSpecializations at h
  cases h1 : getSpecializations.loop1 sh (specDefs g) [] with
  | err c s => rw [h1] at h; cases h
  | crash s => rw [h1] at h; cases h
  | ok sp =>
    rw [h1] at h
    simp only at h
    obtain ⟨hc, hs⟩ := loop1_ok_inv sh (specDefs g) sp h1
    cases h2 : getSpecializations.loop2 sp (plainDefs g) [] with
    | err c s => rw [h2] at h; cases h
    | crash s => rw [h2] at h; cases h
    | ok f =>
      rw [h2] at h
      simp only [Outcome.ok.injEq, Prod.mk.injEq] at h
      obtain ⟨rfl, rfl⟩ := h
      refine ⟨hs, hc.1, fun k hk => ?_⟩
      have hk' : (f.get? k).isSome := by
        rw [isSome_get?_iff] at hk ⊢
        simpa [List.map_map, Function.comp_def] using hk
      rcases loop2_keys sp (plainDefs g) [] f h2 k hk' with h' | h'
      · cases h'
      · exact h'

end Complgen.Check
