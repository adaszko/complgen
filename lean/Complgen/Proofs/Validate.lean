/-
The model of `ValidGrammar::from_grammar` (`Check.validate`) check by check: each early check rejects exactly
the grammars that have the mistake it is about (given that no earlier check fired), and an accepted grammar
has passed them all (`validate_ok_inv`, `finishValidate_ok`).
-/
import Complgen.Model.Pipeline
import Complgen.Proofs.AList
namespace Complgen.Check

def callNames (g : Grammar) : List String := (callsOf g).map (·.1)

theorem commandOf_no_calls (g : Grammar) (h : callsOf g = []) :
    commandOf g = .err .missingCallVariants [] := by
  unfold commandOf
  simp only [h, List.isEmpty_nil, if_true]

theorem mem_dedupNames : ∀ (l : List (String × Span)) (seen : List String) (x : String × Span),
    x ∈ dedupNames l seen → x ∈ l ∧ x.1 ∉ seen
  | [], _, _, h => by simp [dedupNames] at h
  | (n, s) :: rest, seen, x, h => by
    unfold dedupNames at h
    split at h
    · have := mem_dedupNames rest seen x h
      exact ⟨List.mem_cons_of_mem _ this.1, this.2⟩
    · rename_i hn
      rcases List.mem_cons.mp h with rfl | h'
      · exact ⟨List.mem_cons_self, by simpa using hn⟩
      · have := mem_dedupNames rest (n :: seen) x h'
        exact ⟨List.mem_cons_of_mem _ this.1, fun hx => this.2 (List.mem_cons_of_mem _ hx)⟩

theorem dedupNames_complete : ∀ (l : List (String × Span)) (seen : List String) (n : String),
    n ∈ l.map (·.1) → n ∉ seen → n ∈ (dedupNames l seen).map (·.1)
  | [], _, _, h, _ => by simp at h
  | (m, s) :: rest, seen, n, h, hs => by
    unfold dedupNames
    split
    · rename_i hm
      have hm' : m ∈ seen := by simpa using hm
      have hne : n ≠ m := fun e => hs (e ▸ hm')
      exact dedupNames_complete rest seen n ((List.mem_cons.mp h).resolve_left hne) hs
    · by_cases e : n = m
      · subst e; simp
      · have hs' : n ∉ m :: seen := by
          simp only [List.mem_cons, not_or]; exact ⟨e, hs⟩
        simp only [List.map_cons, List.mem_cons]
        exact .inr (dedupNames_complete rest (m :: seen) n ((List.mem_cons.mp h).resolve_left e) hs')

theorem dedupNames_nodup : ∀ (l : List (String × Span)) (seen : List String),
    ((dedupNames l seen).map (·.1)).Nodup
  | [], _ => by simp [dedupNames]
  | (m, s) :: rest, seen => by
    unfold dedupNames
    split
    · exact dedupNames_nodup rest seen
    · simp only [List.map_cons, List.nodup_cons]
      refine ⟨?_, dedupNames_nodup rest (m :: seen)⟩
      intro h
      obtain ⟨x, hx, hxe⟩ := List.mem_map.mp h
      have := (mem_dedupNames rest (m :: seen) x hx).2
      apply this
      rw [hxe]; exact List.mem_cons_self

theorem dedupNames_two (l : List (String × Span)) (a b : String)
    (ha : a ∈ l.map (·.1)) (hb : b ∈ l.map (·.1)) (hab : a ≠ b) : (dedupNames l []).length > 1 := by
  have h1 := dedupNames_complete l [] a ha (by simp)
  have h2 := dedupNames_complete l [] b hb (by simp)
  match hd : dedupNames l [] with
  | [] => rw [hd] at h1; simp at h1
  | [x] =>
    rw [hd] at h1 h2
    simp only [List.map_cons, List.map_nil, List.mem_singleton] at h1 h2
    exact absurd (h1.trans h2.symm) hab
  | _ :: _ :: _ => simp

theorem dedupNames_one (l : List (String × Span)) (n : String) (hne : l ≠ [])
    (h : ∀ x ∈ l, x.1 = n) : ∃ s, dedupNames l [] = [(n, s)] := by
  have hnd := dedupNames_nodup l []
  match hd : dedupNames l [] with
  | [] =>
    obtain ⟨x, hx⟩ := List.exists_mem_of_ne_nil l hne
    have := dedupNames_complete l [] x.1 (List.mem_map.mpr ⟨x, hx, rfl⟩) (by simp)
    rw [hd] at this; simp at this
  | [(m, s)] =>
    have hm := (mem_dedupNames l [] (m, s) (by rw [hd]; simp)).1
    have := h _ hm
    simp only at this
    subst this
    exact ⟨s, rfl⟩
  | (m1, s1) :: (m2, s2) :: rest =>
    rw [hd] at hnd
    have h1 := h _ (mem_dedupNames l [] (m1, s1) (by rw [hd]; simp)).1
    have h2 := h _ (mem_dedupNames l [] (m2, s2) (by rw [hd]; simp)).1
    simp only at h1 h2
    subst h1; subst h2
    simp at hnd

theorem callNameSpans_names (g : Grammar) : (callNameSpans g).map (·.1) = callNames g := by
  simp [callNameSpans, callNames, List.map_map, Function.comp_def]

theorem commandOf_varying (g : Grammar) (a b : String)
    (ha : a ∈ callNames g) (hb : b ∈ callNames g) (hab : a ≠ b) :
    ∃ spans, commandOf g = .err .varyingCommandNames spans := by
  unfold commandOf
  have hne : (callsOf g).isEmpty = false := by
    cases h : callsOf g with
    | nil => simp [callNames, h] at ha
    | cons _ _ => rfl
  have := dedupNames_two (callNameSpans g) a b (by rw [callNameSpans_names]; exact ha)
    (by rw [callNameSpans_names]; exact hb) hab
  simp only [hne, this, if_true, Bool.false_eq_true, if_false]
  exact ⟨_, rfl⟩

def OneCommand (g : Grammar) (n : String) : Prop := callsOf g ≠ [] ∧ ∀ x ∈ callsOf g, x.1 = n

theorem commandOf_one (g : Grammar) (n : String) (h : OneCommand g n) :
    ∃ s, dedupNames (callNameSpans g) [] = [(n, s)] ∧ (callsOf g).isEmpty = false := by
  obtain ⟨hne, hall⟩ := h
  have hne' : (callsOf g).isEmpty = false := by
    cases h : callsOf g with
    | nil => exact absurd h hne
    | cons _ _ => rfl
  obtain ⟨s, hs⟩ := dedupNames_one (callNameSpans g) n
    (by intro h; apply hne; simpa [callNameSpans] using h)
    (by intro x hx; obtain ⟨y, hy, rfl⟩ := List.mem_map.mp hx; exact hall y hy)
  exact ⟨s, hs, hne'⟩

theorem commandOf_slash (g : Grammar) (n : String) (h : OneCommand g n) (hslash : '/' ∈ n.toList) :
    ∃ sp, commandOf g = .err .invalidCommandName [sp] := by
  obtain ⟨s, hs, hne'⟩ := commandOf_one g n h
  unfold commandOf
  refine ⟨s, ?_⟩
  simp [hne', hs, hslash]

theorem commandOf_ok (g : Grammar) (n : String) (h : OneCommand g n) (hslash : '/' ∉ n.toList) :
    commandOf g = .ok n := by
  obtain ⟨s, hs, hne'⟩ := commandOf_one g n h
  unfold commandOf
  simp [hne', hs, hslash]

theorem plainDefs_cons_call (n : String) (s : Span) (e : Expr) (g : Grammar) :
    plainDefs (.call n s e :: g) = plainDefs g := rfl

theorem plainDefs_cons_defn_none (n : String) (s : Span) (e : Expr) (g : Grammar) :
    plainDefs (.defn n s none e :: g) = (n, s, e) :: plainDefs g := rfl

theorem plainDefs_cons_defn_some (n : String) (s : Span) (p : String × Span) (e : Expr) (g : Grammar) :
    plainDefs (.defn n s (some p) e :: g) = plainDefs g := rfl

theorem specDefs_cons_call (n : String) (s : Span) (e : Expr) (g : Grammar) :
    specDefs (.call n s e :: g) = specDefs g := rfl

theorem specDefs_cons_defn_none (n : String) (s : Span) (e : Expr) (g : Grammar) :
    specDefs (.defn n s none e :: g) = specDefs g := rfl

theorem specDefs_cons_defn_some (n : String) (s : Span) (sh : String) (ss : Span) (e : Expr) (g : Grammar) :
    specDefs (.defn n s (some (sh, ss)) e :: g) = (n, s, sh, ss, e) :: specDefs g := rfl

theorem callsOf_cons_call (n : String) (s : Span) (e : Expr) (g : Grammar) :
    callsOf (.call n s e :: g) = (n, s, e) :: callsOf g := rfl

theorem callsOf_cons_defn (n : String) (s : Span) (shl : Option (String × Span)) (e : Expr) (g : Grammar) :
    callsOf (.defn n s shl e :: g) = callsOf g := rfl

theorem mem_callsOf (g : Grammar) (n : String) (s : Span) (e : Expr) :
    (n, s, e) ∈ callsOf g ↔ Stmt.call n s e ∈ g := by
  unfold callsOf
  rw [List.mem_filterMap]
  constructor
  · rintro ⟨st, hst, h⟩
    cases st with
    | call n' s' e' => simp only [Option.some.injEq, Prod.mk.injEq] at h; obtain ⟨rfl, rfl, rfl⟩ := h; exact hst
    | defn _ _ _ _ => simp at h
  · intro h; exact ⟨_, h, rfl⟩

theorem mem_plainDefs (g : Grammar) (n : String) (s : Span) (e : Expr) :
    (n, s, e) ∈ plainDefs g ↔ Stmt.defn n s none e ∈ g := by
  unfold plainDefs
  rw [List.mem_filterMap]
  constructor
  · rintro ⟨st, hst, h⟩
    cases st with
    | call _ _ _ => simp at h
    | defn n' s' sh e' =>
      cases sh with
      | some p => simp at h
      | none => simp only [Option.some.injEq, Prod.mk.injEq] at h; obtain ⟨rfl, rfl, rfl⟩ := h; exact hst
  · intro h; exact ⟨_, h, rfl⟩

theorem mem_specDefs (g : Grammar) (n : String) (s : Span) (shn : String) (ss : Span) (e : Expr) :
    (n, s, shn, ss, e) ∈ specDefs g ↔ Stmt.defn n s (some (shn, ss)) e ∈ g := by
  constructor
  · unfold specDefs
    rw [List.mem_filterMap]
    rintro ⟨st, hst, h⟩
    cases st with
    | call _ _ _ => simp at h
    | defn n' s' shl e' =>
      cases shl with
      | none => simp at h
      | some p =>
        obtain ⟨a, b⟩ := p
        simp only [Option.some.injEq, Prod.mk.injEq] at h
        obtain ⟨rfl, rfl, rfl, rfl, rfl⟩ := h
        exact hst
  · exact fun h => List.mem_filterMap.mpr ⟨_, h, rfl⟩

theorem collectPlain_spec : ∀ (l : List (String × Span × Expr)) (acc : AList (Span × Expr)),
    (∀ x ∈ l, acc.get? x.1 = none) → (l.map (·.1)).Nodup →
    collectPlain l acc = .ok (acc ++ l)
  | [], acc, _, _ => by simp [collectPlain]
  | (n, s, e) :: rest, acc, hacc, hnd => by
    have hnd' := List.nodup_cons.mp hnd
    have h0 : acc.get? n = none := hacc (n, s, e) List.mem_cons_self
    unfold collectPlain
    simp only [h0]
    rw [collectPlain_spec rest (acc ++ [(n, (s, e))]) ?_ hnd'.2]
    · simp
    · intro x hx
      rw [get?_append_ne _ _ _ _ (fun h => hnd'.1 (List.mem_map.mpr ⟨x, hx, h⟩))]
      exact hacc x (List.mem_cons_of_mem _ hx)

theorem collectPlain_dup : ∀ (l : List (String × Span × Expr)) (acc : AList (Span × Expr)),
    (∃ x ∈ l, (acc.get? x.1).isSome) ∨ ¬ (l.map (·.1)).Nodup →
    ∃ spans, collectPlain l acc = .err .duplicateNonterminalDefinition spans
  | [], acc, h => by
    rcases h with ⟨x, hx, _⟩ | h
    · simp at hx
    · simp at h
  | (n, s, e) :: rest, acc, h => by
    unfold collectPlain
    cases hg : acc.get? n with
    | some prev => exact ⟨_, rfl⟩
    | none =>
      apply collectPlain_dup rest (acc ++ [(n, (s, e))])
      rcases h with ⟨x, hx, hsome⟩ | h
      · rcases List.mem_cons.mp hx with rfl | hx'
        · simp [hg] at hsome
        · rw [isSome_get?_iff] at hsome
          refine .inl ⟨x, hx', (isSome_get?_iff _ _).mpr ?_⟩
          rw [List.map_append]
          exact List.mem_append_left _ hsome
      · by_cases hmem : n ∈ rest.map (·.1)
        · obtain ⟨x, hx, hxe⟩ := List.mem_map.mp hmem
          exact .inl ⟨x, hx, hxe ▸ get?_some_of_mem (acc ++ [(n, (s, e))]) n (s, e) (by simp)⟩
        · exact .inr fun hnd => h (List.nodup_cons.mpr ⟨hmem, hnd⟩)

theorem collectPlain_cases (g : Grammar) :
    (((plainDefs g).map (·.1)).Nodup ∧
      collectPlain (plainDefs g) [] = .ok ((plainDefs g).map fun x => (x.1, (x.2.1, x.2.2)))) ∨
    (¬ ((plainDefs g).map (·.1)).Nodup ∧
      ∃ spans, collectPlain (plainDefs g) [] = .err .duplicateNonterminalDefinition spans) := by
  by_cases hnd : ((plainDefs g).map (·.1)).Nodup
  · exact .inl ⟨hnd, by rw [collectPlain_spec (plainDefs g) [] (fun _ _ => rfl) hnd, List.nil_append, List.map_id']⟩
  · exact .inr ⟨hnd, collectPlain_dup (plainDefs g) [] (.inr hnd)⟩

theorem collectPlain_not_cycle : ∀ (l : List (String × Span × Expr)) (acc : AList (Span × Expr)) (c : ErrClass)
    (s : List Span), collectPlain l acc = .err c s → c ≠ .nonterminalDefinitionsCycle
  | [], acc, c, s, h => by unfold collectPlain at h; cases h
  | (n, sp, e) :: rest, acc, c, s, h => by
    unfold collectPlain at h
    split at h
    · cases h; intro e; cases e
    · exact collectPlain_not_cycle rest _ c s h

theorem validate_after_names (g : Grammar) (sh : Shell) (n : String) (h : commandOf g = .ok n) :
    validate g sh =
      match collectPlain (plainDefs g) [] with
      | .err c s => .err c s
      | .crash s => .crash s
      | .ok defs =>
        match getSpecializations g sh with
        | .err c s => .err c s
        | .crash s => .crash s
        | .ok (specs, fbs) => finishValidate g sh n defs specs fbs := by
  unfold validate
  rw [h]
  rfl

theorem validate_dup_plain (g : Grammar) (sh : Shell) (n : String) (h : commandOf g = .ok n)
    (hd : ¬ ((plainDefs g).map (·.1)).Nodup) :
    ∃ spans, validate g sh = .err .duplicateNonterminalDefinition spans := by
  rw [validate_after_names g sh n h]
  obtain ⟨spans, hs⟩ := collectPlain_dup (plainDefs g) [] (.inr hd)
  exact ⟨spans, by rw [hs]⟩

theorem validate_after_plain (g : Grammar) (sh : Shell) (n : String) (h : commandOf g = .ok n)
    (hd : ((plainDefs g).map (·.1)).Nodup) :
    validate g sh =
      match getSpecializations g sh with
      | .err c s => .err c s
      | .crash s => .crash s
      | .ok (specs, fbs) =>
        finishValidate g sh n (plainDefs g) specs fbs := by
  rw [validate_after_names g sh n h, collectPlain_spec (plainDefs g) [] (fun _ _ => rfl) hd, List.nil_append]

theorem validate_ok_inv (g : Grammar) (sh : Shell) (v : Valid) (h : validate g sh = .ok v) :
    ∃ n specs fbs, commandOf g = .ok n ∧ ((plainDefs g).map (·.1)).Nodup ∧
      getSpecializations g sh = .ok (specs, fbs) ∧
      finishValidate g sh n (plainDefs g) specs fbs = .ok v := by
  cases hcmd : commandOf g with
  | err c s => unfold validate at h; rw [hcmd] at h; cases h
  | crash s => unfold validate at h; rw [hcmd] at h; cases h
  | ok n =>
    by_cases hnd : ((plainDefs g).map (·.1)).Nodup
    · rw [validate_after_plain g sh n hcmd hnd] at h
      cases hgs : getSpecializations g sh with
      | err c s => rw [hgs] at h; cases h
      | crash s => rw [hgs] at h; cases h
      | ok r => rw [hgs] at h; exact ⟨n, r.1, r.2, rfl, hnd, rfl, h⟩
    · obtain ⟨spans, he⟩ := validate_dup_plain g sh n hcmd hnd
      rw [he] at h; cases h

/-- what a successful `finishValidate` went through: the specialised definitions `r1`, the specialised call
variants `r2`, a resolution order, the expanded table `r3`, a passed check of spaces -/
theorem finishValidate_ok (g : Grammar) (sh : Shell) (command : String) (defs0 : AList (Span × Expr))
    (specs : AList UserSpec) (fbs : AList String) (v : Valid)
    (h : finishValidate g sh command defs0 specs fbs = .ok v) :
    ∃ defsD r1 r2 order r3, (defs0.map fun x => (x.1, x.2.1, distribute x.2.2)) = defsD ∧
      defsD.foldl (specStep sh fbs (defsD.map (·.1))) ([], ⟨specs, defsD.map fun x => (x.1, x.2.1)⟩) = r1 ∧
      specialize sh fbs (defsD.map (·.1)) (distribute (topExpr g)) r1.2 = r2 ∧
      resolutionOrder r1.1 = .ok order ∧ order.foldl resStep (r1.1, r2.2.unused) = r3 ∧
      spaces r3.1 stackFuel r2.1 [] false = .fine ∧
      v = { command, expr := propagate (collapse (resolve r3.1 r2.1 r3.2).1) 0,
            undefined := refs (propagate (collapse (resolve r3.1 r2.1 r3.2).1) 0),
            unused := (resolve r3.1 r2.1 r3.2).2,
            unusedSpecs := r2.2.specs.filterMap fun (n, sp) => if sp.used then none else some (n, sp.span) } := by
  unfold finishValidate at h
  simp only at h
  split at h
  · cases h
  · next order hro =>
    split at h
    · cases h
    · cases h
    · next hsp =>
      simp only [Outcome.ok.injEq] at h
      exact ⟨_, _, _, order, _, rfl, rfl, rfl, hro, rfl, hsp, h.symm⟩

theorem compile_err_of_validate (σ : Schedule) (g : Grammar) (sh : Shell) (c : ErrClass) (s : List Span)
    (h : validate g sh = .err c s) : ∃ s', Pipeline.compile σ g sh = .err c s' := by
  unfold Pipeline.compile
  rw [h]
  exact ⟨s, rfl⟩

end Complgen.Check
