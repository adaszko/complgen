/-
C05 / C13 / C14 (whole files): `Grammar::parse` on a printed file.  In the grammar it returns for a printed file
of the larger fragment (`StmtNF'`, any admissible layout `GLayout'`, `Proofs/StatementsFull.lean`) EVERY SPAN POINTS
AT ITS CONSTRUCT (`grammar_spans`, `grammar_spans_in_file`), the statement-level spans and all the spans of the
expressions; the round trips up to spans (`grammar_roundtrip*`) and the irrelevance of the layout
(`grammar_layout_irrelevant*`) follow by forgetting the spans, by choosing the plain layout, and by reading a
layout of the smaller fragment as one of the larger (`GLayout.toFull`).  No fuel hypothesis at the level of
files: the fuel `Grammar::parse` provides suffices (`needF_le_stmts`).

What the statement-level spans cover (read off `call_variant`, `nonterm_def_statement`, `nonterm`,
`nonterm_specialization` of `Model/Parse.lean`):
  * `.call name nameSpan e`: `nameSpan` covers the command name, from its first to its last character;
  * `.defn name span none e` (`<NAME> ::= e;`): `span` covers `<NAME>`, from `<` to `>`;
  * `.defn name span (some (shell, shellSpan)) e` (`<NAME@SHELL> ::= e;`): `span` covers `<NAME@SHELL>` from `<`
    to `>`, `shellSpan` the shell name `SHELL` only (after `@`, before `>`);
  * the expression is laid out (`PlacedL'` of `Proofs/SpansFull.lean`, context 0) at the state reached by
    consuming the file up to the first character of the expression: after the name and the layout behind it
    (`.call`), after the head, the layout, `::=` or `=`, and the layout behind it (`.defn`).

The steps of `statement` around the expression do not depend on how the ladder reads it: they are proved for any
text `T` that `fallback` reads with the given fuel, returning a tree that satisfies a relation `R` (`ReadsExpr`,
`statement_reads`).  `fallback_spans_full_layout` gives `R = PlacedL'` under the fuel `needF` (`statement_spans`,
and from there the files); `fallback_roundtrip_need` gives "equal up to spans" under the sharper fuel `need` of
the smaller fragment (`statement_roundtrip_layout`).

`StmtPlaced L s st st'`: the statement `st'` is `st` with these spans when the text of `st` (`ppBodyL' L st`)
begins at the state `s`; `StmtsPlaced`: the statements of a file one after the other.  `grammar_spans_in_file`
is the statement by statement form, by offsets into the file.
-/
import Complgen.Proofs.SpansFull
import Complgen.Proofs.StatementsFull
namespace Complgen.Parse

theorem endOfStatement_endText (s : PState) (semi : Bool) (r : List Char) (hs : s.rest = endText semi r) :
    endOfStatement s = some (s.adv semi.toNat) := by
  unfold endOfStatement
  cases semi
  · simp only [endText, Bool.false_eq_true, if_false] at hs
    rw [hs]; simp [adv_zero]
  · simp only [endText, if_true] at hs
    rw [hs]; simp

theorem endText_rest (s : PState) (semi : Bool) (r : List Char) (hs : s.rest = endText semi r) :
    (s.adv semi.toNat).rest = if semi then r else [] := by
  cases semi
  · simp only [endText, Bool.false_eq_true, if_false] at hs
    simp [adv_zero, hs]
  · simp only [endText, if_true] at hs
    rw [adv_rest', hs]; rfl

theorem terminal_name (n rest : List Char) (s : PState) (hn : n ≠ []) (hreg : ∀ c ∈ n, isRegular c = true)
    (hrest : StopHead rest) (hs : s.rest = n ++ rest) :
    terminal s = some (s.adv n.length, String.ofList n) := by
  rw [terminal_eq_dec, hs, dec'_regular_run n rest hreg, hrest.dec]
  have : n.isEmpty = false := by cases n with | nil => exact absurd rfl hn | cons _ _ => rfl
  simp [this]

theorem isNot_ok (stop run t : List Char) (s : PState) (hne : run ≠ [])
    (hrun : ∀ c ∈ run, stop.contains c = false)
    (ht : t = [] ∨ ∃ x t', t = x :: t' ∧ stop.contains x = true) (hs : s.rest = run ++ t) :
    isNot stop s = some (s.adv run.length, run) := by
  have h : s.rest.takeWhile (fun c => !stop.contains c) = run := by
    rw [hs]
    refine takeWhile_run _ run t (fun c hc => by show (!stop.contains c) = true; rw [hrun c hc]; rfl) ?_
    rcases ht with rfl | ⟨x, t', rfl, hx⟩
    · exact .inl rfl
    · exact .inr ⟨x, t', rfl, by show (!stop.contains x) = false; rw [hx]; rfl⟩
  unfold isNot
  simp only [h]
  cases run with
  | nil => exact absurd rfl hne
  | cons _ _ => simp

theorem sign_ok (b : Bool) (s : PState) (r : List Char) (hs : s.rest = signText b ++ r) :
    ((tag? "::=" s).orElse fun _ => tag? "=" s) = some (s.adv (signText b).length) := by
  cases b
  · rw [tag?_some (cs := [':', ':', '=']) rfl s r hs]
    rfl
  · rw [tag?_none (cs := [':', '=']) rfl s (by rw [hs]; intro r e; cases e),
      tag?_some (cs := ['=']) rfl s r hs]
    rfl

theorem callVariant_none (fuel : Nat) (s : PState) (r : List Char) (hs : s.rest = '<' :: r) :
    callVariant fuel s = none := by
  have : terminal s = none :=
    terminal_none s (by rw [hs]; exact dec'_other '<' r (by decide) (by decide) (by decide))
  unfold callVariant
  simp [this]

theorem nontermSpec_none (n rest : List Char) (s : PState) (hn : n ≠ [])
    (hgt : ∀ c ∈ n, c ≠ '>' ∧ c ≠ '@') (hs : s.rest = '<' :: n ++ '>' :: rest) :
    nontermSpecialization s = none := by
  have h1 := char?_some '<' s _ hs
  have hr1 : (s.adv 1).rest = n ++ '>' :: rest := by rw [adv_rest', hs]; rfl
  have h2 := isNot_ok ['>', '@'] n ('>' :: rest) (s.adv 1) hn
    (fun c hc => by simp [(hgt c hc).1, (hgt c hc).2])
    (.inr ⟨'>', rest, rfl, by decide⟩) hr1
  have hr2 := adv_rest_append _ n _ hr1
  have h3 := char?_none '@' ((s.adv 1).adv n.length) (by rw [hr2]; intro r e; cases e)
  unfold nontermSpecialization
  simp only [h1, h2, h3, Option.bind_eq_bind, Option.bind_some, Option.bind_none]

/-- the first step of `nonterm_def_statement`: `alt((nonterm_specialization, nonterm))` -/
def defHead (s : PState) : Option (PState × String × Span × Option (String × Span)) :=
  match nontermSpecialization s with
  | some (s1, n, sp, sh, shsp) => some (s1, n, sp, some (sh, shsp))
  | none =>
    match nonterm s with
    | some (s1, n, sp) => some (s1, n, sp, none)
    | none => none

theorem nontermDefStatement_eq (fuel : Nat) (s : PState) : nontermDefStatement fuel s =
    (defHead s).bind fun (s1, name, sp, shell) =>
      (((tag? "::=" (mb0 s1)).orElse fun _ => tag? "=" (mb0 s1))).bind fun s3 =>
        (fallback fuel (mb0 s3)).bind fun (s4, e) =>
          (endOfStatement (mb0 s4)).bind fun s5 => some (s5, .defn name sp shell e) := by
  unfold nontermDefStatement defHead
  cases nontermSpecialization s with
  | some p => rfl
  | none =>
    cases nonterm s with
    | some q => rfl
    | none => rfl

theorem statements_succ (n fuel : Nat) (s : PState) (acc : List Stmt) : statements (n + 1) fuel s acc =
    match statement fuel s with
    | some (s', st) =>
      if s'.rest.length < s.rest.length then statements n fuel s' (acc ++ [st]) else (s, acc)
    | none => (s, acc) := by
  rw [statements]; rfl

theorem statement_nil (fuel : Nat) (s : PState) (hs : s.rest = []) : statement fuel s = none := by
  have h1 : terminal s = none := terminal_none s (by rw [hs]; rfl)
  have h2 : char? '<' s = none := char?_none _ s (by rw [hs]; intro r e; cases e)
  have h3 : callVariant fuel s = none := by unfold callVariant; simp [h1]
  have h4 : defHead s = none := by
    unfold defHead nontermSpecialization nonterm
    simp [h2]
  unfold statement
  rw [h3, nontermDefStatement_eq, h4]
  rfl

theorem statements_end (n fuel : Nat) (s : PState) (acc : List Stmt) (hs : s.rest = []) :
    statements n fuel s acc = (s, acc) := by
  cases n with
  | zero => rfl
  | succ n => rw [statements_succ, statement_nil fuel s hs]

end Complgen.Parse

namespace Complgen.Parse.Full

theorem nontermSpec_some_span (n sh rest : List Char) (s : PState) (hn : n ≠ [])
    (hgt : ∀ c ∈ n, c ≠ '>' ∧ c ≠ '@') (hsh : sh ≠ []) (hgt' : ∀ c ∈ sh, c ≠ '>')
    (hs : s.rest = '<' :: n ++ '@' :: sh ++ '>' :: rest) :
    nontermSpecialization s =
      some (s.adv (n.length + sh.length + 3), String.ofList n, spanOf s (n.length + sh.length + 3),
        String.ofList sh, spanOf (s.adv (n.length + 2)) sh.length) := by
  have hs' : s.rest = '<' :: (n ++ '@' :: (sh ++ '>' :: rest)) := by rw [hs]; simp
  have h1 := char?_some '<' s _ hs'
  have hr1 : (s.adv 1).rest = n ++ '@' :: (sh ++ '>' :: rest) := by rw [adv_rest', hs']; rfl
  have h2 := isNot_ok ['>', '@'] n _ (s.adv 1) hn
    (fun c hc => by simp [(hgt c hc).1, (hgt c hc).2])
    (.inr ⟨'@', _, rfl, by decide⟩) hr1
  have hr2 := adv_rest_append _ n _ hr1
  have h3 := char?_some '@' _ _ hr2
  have hr3 : (((s.adv 1).adv n.length).adv 1).rest = sh ++ '>' :: rest := by rw [adv_rest', hr2]; rfl
  have h4 := isNot_ok ['>'] sh _ _ hsh (fun c hc => by simp [hgt' c hc]) (.inr ⟨'>', rest, rfl, by decide⟩) hr3
  have hr4 := adv_rest_append _ sh _ hr3
  have h5 := char?_some '>' _ _ hr4
  have hadv : ((((s.adv 1).adv n.length).adv 1).adv sh.length).adv 1 = s.adv (n.length + sh.length + 3) := by
    simp only [adv_add']; congr 1; omega
  have hadv2 : ((s.adv 1).adv n.length).adv 1 = s.adv (n.length + 2) := by
    simp only [adv_add']; congr 1; omega
  unfold nontermSpecialization
  simp only [h1, h2, h3, h4, h5, Option.bind_eq_bind, Option.bind_some, hadv]
  simp only [hadv2, spanOf]

def headSpans (n : String) (shell : Option (String × Span)) (s : PState) : Span × Option (String × Span) :=
  match shell with
  | none => (spanOf s (n.toList.length + 2), none)
  | some (sh, _) => (spanOf s (n.toList.length + sh.toList.length + 3),
      some (sh, spanOf (s.adv (n.toList.length + 2)) sh.toList.length))

theorem defHead_span (n : String) (shell : Option (String × Span)) (rest : List Char) (s : PState)
    (hn : n.toList ≠ []) (hgt : ∀ c ∈ n.toList, c ≠ '>' ∧ c ≠ '@')
    (hsh : ∀ sh x, shell = some (sh, x) → sh.toList ≠ [] ∧ ∀ c ∈ sh.toList, c ≠ '>')
    (hs : s.rest = headText n shell ++ rest) :
    defHead s = some (s.adv (headText n shell).length, n, (headSpans n shell s).1, (headSpans n shell s).2) := by
  cases shell with
  | none =>
    have hs' : s.rest = '<' :: n.toList ++ '>' :: rest := by rw [hs]; simp [headText]
    have h1 := nontermSpec_none n.toList rest s hn hgt hs'
    have h2 := nonterm_ok_span n.toList rest s hn (fun c hc => (hgt c hc).1) hs'
    unfold defHead
    rw [h1, h2, String.ofList_toList]
    simp [headText, headSpans, spanOf]
  | some p =>
    obtain ⟨sh, x⟩ := p
    obtain ⟨h1, h2⟩ := hsh sh x rfl
    have hs' : s.rest = '<' :: n.toList ++ '@' :: sh.toList ++ '>' :: rest := by rw [hs]; simp [headText]
    have h := nontermSpec_some_span n.toList sh.toList rest s hn hgt h1 h2 hs'
    unfold defHead
    rw [h, String.ofList_toList, String.ofList_toList]
    simp only [headText, headSpans, List.length_cons, List.length_append, List.length_nil]
    congr 3
    omega

theorem nbstart_ppL' (e : Expr) (hnf : NF' e) (lay : Layout') (adm : lay.Adm) (k : Nat) :
    NBStart (ppL' lay k e) := ((heads e hnf lay adm).hd k).nb

def ReadsExpr (fuel : Nat) (T : List Char) (R : PState → Expr → Prop) : Prop :=
  ∀ rest, Follows rest → ∀ s : PState, s.rest = T ++ rest →
    ∃ e', fallback fuel s = some (s.adv T.length, e') ∧ R s e'

theorem readsExpr_ppL' (e : Expr) (hnf : NF' e) (lay : Layout') (adm : lay.Adm) (fuel : Nat)
    (hf : needF e ≤ fuel) : ReadsExpr fuel (ppL' lay 0 e) (fun s e' => PlacedL' lay 0 s e e') :=
  fun rest hrest s hs => fallback_spans_full_layout e hnf lay adm rest hrest s hs fuel hf

/-- the expression of a statement and its end: the ladder reads the expression, `multiblanks0` the layout
before `;`, `end_of_statement` the `;` if there is one -/
theorem exprEnd_spans {fuel : Nat} {T : List Char} {R : PState → Expr → Prop} (hT : ReadsExpr fuel T R)
    (l : List Char) (hl : IsLayoutW l) (semi : Bool) (r : List Char) (s : PState)
    (hs : s.rest = T ++ (l ++ endText semi r)) :
    ∃ e', fallback fuel s = some (s.adv T.length, e') ∧ R s e' ∧
      endOfStatement (mb0 (s.adv T.length)) = some (s.adv (T.length + l.length + semi.toNat)) := by
  obtain ⟨e', he', hE⟩ := hT _ (Follows_endText l hl semi r) s hs
  have hr3 := adv_rest_append s _ _ hs
  have hmb0 := mb0_layout _ l _ hl.1 (NBHead_endText semi r) hr3
  have hr4 := adv_rest_append _ l _ hr3
  refine ⟨e', he', hE, ?_⟩
  rw [hmb0, endOfStatement_endText _ semi r hr4, adv_add', adv_add', Nat.add_assoc]

theorem callVariant_spans (n : List Char) (hn : n ≠ []) (hreg : ∀ c ∈ n, isRegular c = true)
    (l1 : List Char) (hl1 : IsLayoutW l1) (hne : l1 ≠ []) {fuel : Nat} {T : List Char}
    {R : PState → Expr → Prop} (hT : ReadsExpr fuel T R) (hnb : ∀ X, NBHead (T ++ X))
    (l2 : List Char) (hl2 : IsLayoutW l2) (semi : Bool) (r : List Char) (s : PState)
    (hs : s.rest = n ++ (l1 ++ (T ++ (l2 ++ endText semi r)))) :
    ∃ e', callVariant fuel s =
        some (s.adv (n.length + l1.length + T.length + l2.length + semi.toNat),
          .call (String.ofList n) (spanOf s n.length) e') ∧
      R (s.adv (n.length + l1.length)) e' := by
  have hstop : StopHead (l1 ++ (T ++ (l2 ++ endText semi r))) := by
    cases l1 with
    | nil => exact absurd rfl hne
    | cons c cs => exact .inr ⟨c, _, rfl, blank_stop hl1.head⟩
  have hterm := terminal_name n _ s hn hreg hstop hs
  have hr1 := adv_rest_append s n _ hs
  have hmb1 := mb1_layout_some _ l1 _ hl1.1 hne (hnb _) hr1
  have hr2 := adv_rest_append _ l1 _ hr1
  obtain ⟨e', he', hE, hend⟩ := exprEnd_spans hT l2 hl2 semi r _ hr2
  refine ⟨e', ?_, by rw [← adv_add']; exact hE⟩
  unfold callVariant
  simp only [hterm, hmb1, he', hend, Option.bind_eq_bind, Option.bind_some]
  simp only [adv_add', spanOf]
  congr 3
  omega

theorem nontermDef_spans (n : String) (shell : Option (String × Span)) (hn : n.toList ≠ [])
    (hgt : ∀ c ∈ n.toList, c ≠ '>' ∧ c ≠ '@')
    (hsh : ∀ sh x, shell = some (sh, x) → sh.toList ≠ [] ∧ ∀ c ∈ sh.toList, c ≠ '>')
    (l0 : List Char) (hl0 : IsLayout l0) (b : Bool) (l1 : List Char) (hl1 : IsLayout l1)
    {fuel : Nat} {T : List Char} {R : PState → Expr → Prop} (hT : ReadsExpr fuel T R)
    (hnb : ∀ X, NBHead (T ++ X)) (l2 : List Char) (hl2 : IsLayoutW l2)
    (semi : Bool) (r : List Char) (s : PState)
    (hs : s.rest = headText n shell ++ (l0 ++ (signText b ++ (l1 ++ (T ++ (l2 ++ endText semi r)))))) :
    ∃ e', nontermDefStatement fuel s =
        some (s.adv ((headText n shell).length + l0.length + (signText b).length + l1.length +
            T.length + l2.length + semi.toNat),
          .defn n (headSpans n shell s).1 (headSpans n shell s).2 e') ∧
      R (s.adv ((headText n shell).length + l0.length + (signText b).length + l1.length)) e' := by
  have hhead := defHead_span n shell _ s hn hgt hsh hs
  have hr1 := adv_rest_append s _ _ hs
  have hm1 := mb0_layout _ l0 _ hl0 (NBHead_signText b _) hr1
  have hr2 := adv_rest_append _ l0 _ hr1
  have hsign := sign_ok b _ _ hr2
  have hr3 := adv_rest_append _ (signText b) _ hr2
  have hm2 := mb0_layout _ l1 _ hl1 (hnb _) hr3
  have hr4 := adv_rest_append _ l1 _ hr3
  obtain ⟨e', he', hE, hend⟩ := exprEnd_spans hT l2 hl2 semi r _ hr4
  refine ⟨e', ?_, by simp only [adv_add'] at hE; exact hE⟩
  rw [nontermDefStatement_eq, hhead]
  simp only [Option.bind_some, hm1, hsign, hm2, he', hend]
  simp only [adv_add']
  congr 3
  omega

def parsedStmt (s : PState) : Stmt → Expr → Stmt
  | .call n _ _, e' => .call n (spanOf s n.toList.length) e'
  | .defn n _ shell _, e' => .defn n (headSpans n shell s).1 (headSpans n shell s).2 e'

def exprOffset (L : StmtLayout') : Stmt → Nat
  | .call n _ _ => n.toList.length + L.name.length
  | .defn n _ shell _ => (headText n shell).length + L.name.length + (signText L.eq).length + L.sign.length

/-- `alt((call_variant, nonterm_def_statement))` on a printed statement -/
theorem variant_spans (st : Stmt) (hst : StmtNF' st) (L : StmtLayout') (adm : L.Adm st) (semi : Bool)
    (r : List Char) (s : PState) (hs : s.rest = ppBodyL' L st ++ (L.semi ++ endText semi r))
    {fuel : Nat} {R : PState → Expr → Prop} (hT : ReadsExpr fuel (ppL' L.expr 0 st.expr) R) :
    ∃ e', ((callVariant fuel s).orElse fun _ => nontermDefStatement fuel s) =
        some (s.adv ((ppBodyL' L st).length + L.semi.length + semi.toNat), parsedStmt s st e') ∧
      R (s.adv (exprOffset L st)) e' := by
  have hnb := (nbstart_ppL' st.expr hst.expr L.expr adm.expr 0).nbh
  cases st with
  | call n sp e =>
    simp only [StmtNF'] at hst
    simp only [Stmt.expr] at hT hnb
    obtain ⟨h1, h2, _, _⟩ := hst
    have hcall := adm.nameCall rfl
    have hs' : s.rest = n.toList ++ (L.name ++ (ppL' L.expr 0 e ++ (L.semi ++ endText semi r))) := by
      rw [hs]; simp [ppBodyL']
    obtain ⟨e', h, hE⟩ := callVariant_spans n.toList h1 h2 L.name ⟨adm.name, hcall.2⟩ hcall.1 hT hnb
      L.semi adm.semi semi r s hs'
    refine ⟨e', ?_, hE⟩
    rw [h, String.ofList_toList]
    simp only [Option.orElse, ppBodyL', List.length_append, parsedStmt]
  | defn n sp shell e =>
    simp only [Stmt.expr] at hT hnb
    have hparts : n.toList ≠ [] ∧ (∀ c ∈ n.toList, c ≠ '>' ∧ c ≠ '@') ∧
        (∀ sh x, shell = some (sh, x) → sh.toList ≠ [] ∧ ∀ c ∈ sh.toList, c ≠ '>') := by
      cases shell with
      | none =>
        simp only [StmtNF'] at hst
        exact ⟨hst.1, hst.2.1, fun _ _ h => (by cases h)⟩
      | some p =>
        obtain ⟨sh, x⟩ := p
        simp only [StmtNF'] at hst
        exact ⟨hst.1, hst.2.1, fun _ _ h => (by cases h; exact ⟨hst.2.2.1, hst.2.2.2.1⟩)⟩
    obtain ⟨h1, h2, h3⟩ := hparts
    have hbody := ppBodyL'_defn L n sp shell e
    have hs' : s.rest = headText n shell ++ (L.name ++ (signText L.eq ++ (L.sign ++
        (ppL' L.expr 0 e ++ (L.semi ++ endText semi r))))) := by
      rw [hs, hbody]; simp
    have hlt : ∃ r', s.rest = '<' :: r' := by
      rw [hs']; cases shell with
      | none => exact ⟨_, rfl⟩
      | some p => exact ⟨_, rfl⟩
    obtain ⟨r', hr'⟩ := hlt
    obtain ⟨e', h, hE⟩ := nontermDef_spans n shell h1 h2 h3 L.name adm.name L.eq L.sign adm.sign hT hnb
      L.semi adm.semi semi r s hs'
    refine ⟨e', ?_, hE⟩
    rw [callVariant_none fuel s r' hr', h, hbody]
    simp only [Option.orElse, List.length_append, parsedStmt]
    congr 3
    omega

/-- the statement is printed with its `;` and the layout after it, or, `semi = false`, as the last statement of
a file that does not end in `;`; `rest`, at which `multiblanks0` stops, is the end of the file or the next
statement -/
theorem statement_reads (st : Stmt) (hst : StmtNF' st) (L : StmtLayout') (adm : L.Adm st)
    (semi : Bool) (rest : List Char) (hrest : NBHead rest) (hsemi : semi = false → rest = [])
    (s : PState) (hs : s.rest = ppStmtL' L semi st ++ rest) {fuel : Nat} {R : PState → Expr → Prop}
    (hT : ReadsExpr fuel (ppL' L.expr 0 st.expr) R) :
    ∃ e', statement fuel s = some (s.adv (ppStmtL' L semi st).length, parsedStmt s st e') ∧
      R (s.adv (exprOffset L st)) e' := by
  have hs' : s.rest = ppBodyL' L st ++ (L.semi ++ endText semi (L.next ++ rest)) := by
    rw [hs, ← endText_append semi L.next rest hsemi]; simp [ppStmtL']
  obtain ⟨e', hv, hE⟩ := variant_spans st hst L adm semi (L.next ++ rest) s hs' hT
  have hs2 : s.rest = (ppBodyL' L st ++ L.semi) ++ endText semi (L.next ++ rest) := by rw [hs']; simp
  have hr1 := adv_rest_append s _ _ hs2
  have hr2 := endText_rest _ semi _ hr1
  rw [adv_add', List.length_append] at hr2
  refine ⟨e', ?_, hE⟩
  unfold statement
  rw [hv]
  simp only
  cases semi
  · simp only [Bool.false_eq_true, if_false] at hr2
    rw [mb0_nil _ hr2]
    simp [ppStmtL', endText]
  · simp only [if_true] at hr2
    rw [mb0_layout _ L.next rest adm.next hrest hr2, adv_add']
    simp only [ppStmtL', endText, if_true, List.length_append, List.length_cons, Bool.toNat_true]
    congr 3
    omega

theorem parsedStmt_eraseSpans (s : PState) (st : Stmt) (e' : Expr) (h : e'.eraseSpans = st.expr.eraseSpans) :
    (parsedStmt s st e').eraseSpans = st.eraseSpans := by
  cases st with
  | call n sp e => simp only [parsedStmt, Stmt.eraseSpans, h, Stmt.expr]
  | defn n sp shell e =>
    cases shell with
    | none => simp only [parsedStmt, headSpans, Stmt.eraseSpans, h, Stmt.expr]
    | some p => obtain ⟨sh, x⟩ := p; simp only [parsedStmt, headSpans, Stmt.eraseSpans, h, Stmt.expr]

def StmtPlaced (L : StmtLayout') (s : PState) : Stmt → Stmt → Prop
  | .call n _ e, st' => ∃ e', st' = .call n (spanOf s n.toList.length) e' ∧
      PlacedL' L.expr 0 (s.adv (n.toList.length + L.name.length)) e e'
  | .defn n _ shell e, st' => ∃ e', st' = .defn n (headSpans n shell s).1 (headSpans n shell s).2 e' ∧
      PlacedL' L.expr 0
        (s.adv ((headText n shell).length + L.name.length + (signText L.eq).length + L.sign.length)) e e'

theorem stmtPlaced_iff (L : StmtLayout') (s : PState) (st st' : Stmt) : StmtPlaced L s st st' ↔
    ∃ e', st' = parsedStmt s st e' ∧ PlacedL' L.expr 0 (s.adv (exprOffset L st)) st.expr e' := by
  cases st <;> exact Iff.rfl

/-- **`statement` on a printed statement of the larger fragment**: the statement it returns carries the spans
of the name (or of the head and the shell) and an expression every span of which points at its construct -/
theorem statement_spans (st : Stmt) (hst : StmtNF' st) (L : StmtLayout') (adm : L.Adm st)
    (semi : Bool) (rest : List Char) (hrest : NBHead rest) (hsemi : semi = false → rest = [])
    (s : PState) (hs : s.rest = ppStmtL' L semi st ++ rest) (fuel : Nat) (hf : needF st.expr ≤ fuel) :
    ∃ st', statement fuel s = some (s.adv (ppStmtL' L semi st).length, st') ∧ StmtPlaced L s st st' := by
  obtain ⟨e', h, hE⟩ := statement_reads st hst L adm semi rest hrest hsemi s hs
    (readsExpr_ppL' st.expr hst.expr L.expr adm.expr fuel hf)
  exact ⟨_, h, (stmtPlaced_iff L s st _).2 ⟨e', rfl, hE⟩⟩

def StmtsPlaced (fin : Bool) : PState → (Nat → StmtLayout') → List Stmt → List Stmt → Prop
  | _, _, [], g' => g' = []
  | s, L, st :: sts, g' => ∃ st' r', g' = st' :: r' ∧ StmtPlaced (L 0) s st st' ∧
      StmtsPlaced fin (s.adv (ppStmtL' (L 0) (fin || !sts.isEmpty) st).length) (fun i => L (i + 1)) sts r'

/-- `many0(statement)` on the printed statements -/
theorem statements_spans (fin : Bool) : ∀ (g : List Stmt) (L : Nat → StmtLayout'), (∀ st ∈ g, StmtNF' st) →
    (∀ i st, g[i]? = some st → (L i).Adm st) → ∀ (n : Nat), g.length ≤ n →
    ∀ (fuel : Nat), (∀ st ∈ g, needF st.expr ≤ fuel) → ∀ (s : PState), s.rest = ppStmtsL' fin L g →
    ∀ acc : List Stmt, ∃ g', statements n fuel s acc = (s.adv (ppStmtsL' fin L g).length, acc ++ g') ∧
      StmtsPlaced fin s L g g'
  | [], L, _, _, n, _, fuel, _, s, hs, acc => by
    refine ⟨[], ?_, by simp [StmtsPlaced]⟩
    rw [statements_end n fuel s acc hs]
    simp [ppStmtsL', adv_zero]
  | x :: xs, L, hg, hadm, n, hn, fuel, hfuel, s, hs, acc => by
    obtain ⟨n, rfl⟩ : ∃ n', n = n' + 1 := ⟨n - 1, by simp at hn; omega⟩
    have hg' : ∀ st ∈ xs, StmtNF' st := fun y hy => hg y (by simp [hy])
    have hs' : s.rest = ppStmtL' (L 0) (fin || !xs.isEmpty) x ++ ppStmtsL' fin (fun i => L (i + 1)) xs := by
      rw [hs]; rfl
    have hsemi : (fin || !xs.isEmpty) = false → ppStmtsL' fin (fun i => L (i + 1)) xs = [] := by
      intro h
      cases xs with
      | nil => rfl
      | cons _ _ => simp at h
    obtain ⟨st', hst', hE⟩ := statement_spans x (hg x (by simp)) (L 0) (hadm 0 x (by simp))
      (fin || !xs.isEmpty) _ (NBHead_ppStmtsL' fin _ xs hg') hsemi s hs' fuel (hfuel x (by simp))
    have hr := adv_rest_append s _ _ hs'
    obtain ⟨g', hg'', hE'⟩ := statements_spans fin xs (fun i => L (i + 1)) hg' (adm_tail' hadm) n
      (by simp at hn; omega) fuel (fun y hy => hfuel y (by simp [hy])) _ hr (acc ++ [st'])
    have hpos := length_ppStmtL'_pos (L 0) (fin || !xs.isEmpty) x (hg x (by simp))
    have hlt : (s.adv (ppStmtL' (L 0) (fin || !xs.isEmpty) x).length).rest.length < s.rest.length := by
      rw [hr, hs', List.length_append]; omega
    refine ⟨st' :: g', ?_, st', g', rfl, hE, hE'⟩
    rw [statements_succ, hst']
    simp only [hlt, if_true]
    rw [hg'', adv_add']
    simp [ppStmtsL']

theorem StmtPlaced.eraseSpans {L : StmtLayout'} {s : PState} {st st' : Stmt} (h : StmtPlaced L s st st') :
    st'.eraseSpans = st.eraseSpans := by
  obtain ⟨e', rfl, hp⟩ := (stmtPlaced_iff L s st st').1 h
  exact parsedStmt_eraseSpans s st e' hp.eraseSpans

theorem StmtsPlaced.eraseSpans {fin : Bool} : ∀ {g : List Stmt} {s : PState} {L : Nat → StmtLayout'}
    {g' : List Stmt}, StmtsPlaced fin s L g g' → g'.map Stmt.eraseSpans = g.map Stmt.eraseSpans
  | [], _, _, _, h => by simp only [StmtsPlaced] at h; subst h; rfl
  | _ :: sts, _, _, _, h => by
    simp only [StmtsPlaced] at h
    obtain ⟨st', r', rfl, h1, h2⟩ := h
    simp only [List.map_cons, h1.eraseSpans, StmtsPlaced.eraseSpans (g := sts) h2]

/-- the offset of the first character of the `i`-th statement in `ppStmtsL' fin L g` -/
def stmtStart (fin : Bool) : (Nat → StmtLayout') → List Stmt → Nat → Nat
  | _, [], _ => 0
  | _, _ :: _, 0 => 0
  | L, st :: sts, i + 1 =>
    (ppStmtL' (L 0) (fin || !sts.isEmpty) st).length + stmtStart fin (fun j => L (j + 1)) sts i

theorem StmtsPlaced.get {fin : Bool} : ∀ {g : List Stmt} {s : PState} {L : Nat → StmtLayout'} {g' : List Stmt},
    StmtsPlaced fin s L g g' → ∀ i st, g[i]? = some st →
      ∃ st', g'[i]? = some st' ∧ StmtPlaced (L i) (s.adv (stmtStart fin L g i)) st st'
  | [], _, _, _, _, i, st, hi => by simp at hi
  | x :: xs, s, L, g', h, i, st, hi => by
    simp only [StmtsPlaced] at h
    obtain ⟨st', r', rfl, h1, h2⟩ := h
    cases i with
    | zero =>
      simp only [List.getElem?_cons_zero, Option.some.injEq] at hi
      subst hi
      exact ⟨st', by simp, by simpa [stmtStart, adv_zero] using h1⟩
    | succ i =>
      simp only [List.getElem?_cons_succ] at hi
      obtain ⟨st'', hg, hp⟩ := StmtsPlaced.get (g := xs) h2 i st hi
      refine ⟨st'', by simpa using hg, ?_⟩
      simpa [stmtStart, adv_add'] using hp

theorem stmtStart_text (fin : Bool) : ∀ (g : List Stmt) (L : Nat → StmtLayout') (i : Nat) (st : Stmt),
    g[i]? = some st → ∃ pre post, ppStmtsL' fin L g = pre ++ ppBodyL' (L i) st ++ post ∧
      pre.length = stmtStart fin L g i
  | [], _, i, st, hi => by simp at hi
  | x :: xs, L, i, st, hi => by
    cases i with
    | zero =>
      simp only [List.getElem?_cons_zero, Option.some.injEq] at hi
      subst hi
      exact ⟨[], (L 0).semi ++ endText (fin || !xs.isEmpty) (L 0).next ++ ppStmtsL' fin (fun j => L (j + 1)) xs,
        by simp [ppStmtsL', ppStmtL'], by simp [stmtStart]⟩
    | succ i =>
      simp only [List.getElem?_cons_succ] at hi
      obtain ⟨pre, post, h, hl⟩ := stmtStart_text fin xs (fun j => L (j + 1)) i st hi
      exact ⟨ppStmtL' (L 0) (fin || !xs.isEmpty) x ++ pre, post, by simp [ppStmtsL', h],
        by simp [stmtStart, hl]⟩

def stmtSpans : Stmt → List Span
  | .call _ sp e => sp :: spansOf e
  | .defn _ sp none e => sp :: spansOf e
  | .defn _ sp (some (_, shsp)) e => sp :: shsp :: spansOf e

/-- for every span of `stmtSpans`: the offsets of the first character of its construct and of the character
after the last one, in a text in which the statement (`ppBodyL' L st`) begins at offset `k` -/
def stmtOffs (L : StmtLayout') (k : Nat) : Stmt → List (Nat × Nat)
  | .call n _ e => (k, k + n.toList.length) :: offsL' L.expr 0 (k + (n.toList.length + L.name.length)) e
  | .defn n _ none e =>
    (k, k + (n.toList.length + 2)) ::
      offsL' L.expr 0 (k + ((headText n none).length + L.name.length + (signText L.eq).length + L.sign.length)) e
  | .defn n _ (some (sh, x)) e =>
    (k, k + (n.toList.length + sh.toList.length + 3)) ::
    (k + (n.toList.length + 2), k + (n.toList.length + 2) + sh.toList.length) ::
      offsL' L.expr 0
        (k + ((headText n (some (sh, x))).length + L.name.length + (signText L.eq).length + L.sign.length)) e

def stmtTexts (L : StmtLayout') : Stmt → List (List Char)
  | .call n _ e => n.toList :: ownTexts L.expr e
  | .defn n _ none e => ('<' :: n.toList ++ ['>']) :: ownTexts L.expr e
  | .defn n _ (some (sh, _)) e =>
    ('<' :: n.toList ++ '@' :: sh.toList ++ ['>']) :: sh.toList :: ownTexts L.expr e

theorem StmtPlaced.spans {L : StmtLayout'} {s : PState} {k : Nat} {st st' : Stmt}
    (h : StmtPlaced L (s.adv k) st st') : stmtSpans st' = (stmtOffs L k st).map (spanAt s) := by
  cases st with
  | call n sp e =>
    simp only [StmtPlaced, adv_add', spanOf_adv] at h
    obtain ⟨e', rfl, h⟩ := h
    simp only [stmtSpans, stmtOffs, List.map_cons, (placedL'_offs_all e).1 _ _ _ _ _ h]
  | defn n sp shell e =>
    cases shell with
    | none =>
      simp only [StmtPlaced, headSpans, adv_add', spanOf_adv] at h
      obtain ⟨e', rfl, h⟩ := h
      simp only [stmtSpans, stmtOffs, List.map_cons, (placedL'_offs_all e).1 _ _ _ _ _ h]
    | some p =>
      obtain ⟨sh, x⟩ := p
      simp only [StmtPlaced, headSpans, adv_add', spanOf_adv] at h
      obtain ⟨e', rfl, h⟩ := h
      simp only [stmtSpans, stmtOffs, List.map_cons, (placedL'_offs_all e).1 _ _ _ _ _ h]

/-- in any text `X` that contains the statement from offset `pre.length` on, the characters between the two
offsets of a span are the text of its construct -/
theorem stmtOffs_own_text (X : List Char) (L : StmtLayout') (st : Stmt) (hst : StmtNF' st)
    (pre post : List Char) (hX : X = pre ++ ppBodyL' L st ++ post) :
    (stmtOffs L pre.length st).map (slice X) = stmtTexts L st := by
  have hnf := hst.expr
  have hX := prefix_of_eq hX
  cases st with
  | call n sp e =>
    simp only [ppBodyL', List.append_assoc] at hX
    have he : ppL' L.expr 0 e <+: X.drop (pre.length + (n.toList.length + L.name.length)) :=
      prefix_drop (A := n.toList ++ L.name) (by rw [List.append_assoc]; exact hX) (List.length_append ..)
    simp only [stmtOffs, stmtTexts, List.map_cons, slice_prefix ((List.prefix_append _ _).trans hX) rfl,
      (offsL'_own_text_all X e).1 hnf _ _ _ he]
  | defn n sp shell e =>
    rw [ppBodyL'_defn] at hX
    have he : ppL' L.expr 0 e <+: X.drop (pre.length +
        ((headText n shell).length + L.name.length + (signText L.eq).length + L.sign.length)) :=
      prefix_drop (A := headText n shell ++ L.name ++ signText L.eq ++ L.sign)
        (by simpa only [List.append_assoc] using hX) (by simp only [List.length_append])
    have hh := (List.prefix_append _ _).trans hX
    cases shell with
    | none =>
      simp only [stmtOffs, stmtTexts, List.map_cons, (offsL'_own_text_all X e).1 hnf _ _ _ he]
      rw [slice_prefix hh (by simp [headText])]
      rfl
    | some p =>
      obtain ⟨sh, x⟩ := p
      have hs : sh.toList <+: X.drop (pre.length + (n.toList.length + 2)) :=
        prefix_mid (A := '<' :: n.toList ++ ['@']) (B := ['>'])
          (by simpa only [headText, List.append_assoc, List.cons_append, List.nil_append] using hh) (by simp)
      simp only [stmtOffs, stmtTexts, List.map_cons, (offsL'_own_text_all X e).1 hnf _ _ _ he,
        slice_prefix hs rfl]
      rw [slice_prefix hh (by simp [headText]; omega)]
      rfl

end Complgen.Parse.Full

namespace Complgen.Parse
open Complgen.Parse.Full

/-- **`Grammar::parse` on a printed grammar of the larger fragment, whatever the layout**: the grammar it
returns is laid out in the file — statement after statement from the state behind the leading layout, every
statement with the spans of its name or head and an expression every span of which points at its construct
(`StmtsPlaced`) -/
theorem grammar_spans (g : Grammar) (hg : ∀ st ∈ g, StmtNF' st) (G : GLayout') (adm : G.Adm g) :
    ∃ g', parse (ppGrammarL' G g) = .ok g' ∧
      StmtsPlaced G.semi ((PState.init (ppGrammarL' G g)).adv G.lead.length) G.stmt g g' := by
  have hnb := NBHead_ppStmtsL' G.semi G.stmt g hg
  have hs0 : (PState.init (ppGrammarL' G g)).rest = G.lead ++ ppStmtsL' G.semi G.stmt g := rfl
  have hm0 := mb0_layout _ G.lead _ adm.lead hnb hs0
  have hr0 := adv_rest_append _ G.lead _ hs0
  have hlen : (ppGrammarL' G g).length = G.lead.length + (ppStmtsL' G.semi G.stmt g).length := by
    simp [ppGrammarL']
  have hfuel : ∀ st ∈ g, needF st.expr ≤ fuelFor (ppGrammarL' G g).length := by
    intro st hst
    have := needF_le_stmts G.semi g G.stmt hg adm.stmt st hst
    unfold fuelFor; omega
  have hn : g.length ≤ (ppGrammarL' G g).length + 1 := by
    have := length_le_ppStmtsL' G.semi g G.stmt hg
    omega
  obtain ⟨g', h, hE⟩ := statements_spans G.semi g G.stmt hg adm.stmt _ hn _ hfuel _ hr0 []
  have hr1 := adv_rest_append _ (ppStmtsL' G.semi G.stmt g) [] (by rw [hr0]; simp)
  refine ⟨g', ?_, hE⟩
  unfold parse
  simp only [hm0, h, List.nil_append]
  rw [mb0_nil _ hr1, hr1]
  rfl

/-- **`Grammar::parse` reads back a printed grammar of the larger fragment, whatever the layout**: a grammar
whose statements are in `StmtNF'` (expressions in `NF'`: escaped literals, descriptions, descriptions
distributed over groups, words built by juxtaposition) printed with any admissible layout is parsed as the
same grammar up to spans.  No fuel hypothesis: the fuel `Grammar::parse` provides suffices
(`needF_le_stmts`). -/
theorem grammar_roundtrip_full_layout (g : Grammar) (hg : ∀ st ∈ g, StmtNF' st) (G : GLayout') (adm : G.Adm g) :
    ∃ g', parse (ppGrammarL' G g) = .ok g' ∧ g'.map Stmt.eraseSpans = g.map Stmt.eraseSpans := by
  obtain ⟨g', h1, h2⟩ := grammar_spans g hg G adm
  exact ⟨g', h1, h2.eraseSpans⟩

theorem grammar_roundtrip_full_layout_of_spans (g : Grammar) (hg : ∀ st ∈ g, StmtNF' st) (G : GLayout')
    (adm : G.Adm g) :
    ∃ g', parse (ppGrammarL' G g) = .ok g' ∧ g'.map Stmt.eraseSpans = g.map Stmt.eraseSpans :=
  grammar_roundtrip_full_layout g hg G adm

/-- **The layout of a file does not matter, on the larger fragment**: two printed forms of one grammar,
under two admissible layouts, are parsed as grammars that differ in their spans only. -/
theorem grammar_layout_irrelevant_full (g : Grammar) (hg : ∀ st ∈ g, StmtNF' st) (G₁ G₂ : GLayout')
    (adm₁ : G₁.Adm g) (adm₂ : G₂.Adm g) :
    ∃ g₁ g₂, parse (ppGrammarL' G₁ g) = .ok g₁ ∧ parse (ppGrammarL' G₂ g) = .ok g₂ ∧
      g₁.map Stmt.eraseSpans = g₂.map Stmt.eraseSpans :=
  agree_of_roundtrip (grammar_roundtrip_full_layout g hg G₁ adm₁) (grammar_roundtrip_full_layout g hg G₂ adm₂)

/-- **`Grammar::parse` reads back what the plain printer writes, on the larger fragment**, up to spans -/
theorem grammar_roundtrip_full (g : Grammar) (hg : ∀ st ∈ g, StmtNF' st) :
    ∃ g', parse (ppGrammar' g) = .ok g' ∧ g'.map Stmt.eraseSpans = g.map Stmt.eraseSpans := by
  rw [ppGrammar'_eq]
  exact grammar_roundtrip_full_layout g hg (plainG' g.length) (plainG'_adm g)

theorem grammar_layout_vs_plain_full (g : Grammar) (hg : ∀ st ∈ g, StmtNF' st) (G : GLayout') (adm : G.Adm g) :
    ∃ g₁ g₂, parse (ppGrammarL' G g) = .ok g₁ ∧ parse (ppGrammar' g) = .ok g₂ ∧
      g₁.map Stmt.eraseSpans = g₂.map Stmt.eraseSpans := by
  rw [ppGrammar'_eq]
  exact grammar_layout_irrelevant_full g hg G (plainG' g.length) adm (plainG'_adm g)

def Full.stmtOffset (G : GLayout') (g : Grammar) (i : Nat) : Nat :=
  G.lead.length + stmtStart G.semi G.stmt g i

/-- **Every span of a parsed file points at its construct.**  A grammar of the larger fragment printed with any
admissible layout is parsed (`Grammar::parse`) as the same grammar up to spans, and for every statement `i`:
the text of the statement stands in the file `t` at the offset `stmtOffset G g i`; the parsed statement is laid
out there (`StmtPlaced`: the span of the command name, or of `<NAME>` / `<NAME@SHELL>` and of `SHELL`, computed
from the state reached by consuming the file up to the first character of the name or head; the expression
`PlacedL'` at the state reached by consuming the file up to the expression's first character); all spans of the
statement (`stmtSpans`: name or head, shell, every node of the expression in preorder) are the spans between
the offsets `stmtOffs` of the file; the characters of the file between the two offsets of a span are the text
of its construct (`stmtTexts`); and every span starts at the line (1 + line feeds before) and byte column
(1 + bytes since the last line feed) of its first offset. -/
theorem grammar_spans_in_file (g : Grammar) (hg : ∀ st ∈ g, StmtNF' st) (G : GLayout') (adm : G.Adm g) :
    ∃ g', parse (ppGrammarL' G g) = .ok g' ∧ g'.map Stmt.eraseSpans = g.map Stmt.eraseSpans ∧
      ∀ i st, g[i]? = some st → ∃ st', g'[i]? = some st' ∧
        (∃ post, ppGrammarL' G g =
          (ppGrammarL' G g).take (stmtOffset G g i) ++ ppBodyL' (G.stmt i) st ++ post) ∧
        StmtPlaced (G.stmt i) ((PState.init (ppGrammarL' G g)).adv (stmtOffset G g i)) st st' ∧
        stmtSpans st' =
          (stmtOffs (G.stmt i) (stmtOffset G g i) st).map (spanAt (PState.init (ppGrammarL' G g))) ∧
        (stmtOffs (G.stmt i) (stmtOffset G g i) st).map (slice (ppGrammarL' G g)) = stmtTexts (G.stmt i) st ∧
        ∀ sp ∈ stmtSpans st', ∃ ab ∈ stmtOffs (G.stmt i) (stmtOffset G g i) st,
          sp.line = 1 + ((ppGrammarL' G g).take ab.1).count '\n' ∧
          sp.cs = 1 + bytesLen (Parse.Pos.lastLine ((ppGrammarL' G g).take ab.1)) := by
  obtain ⟨g', h1, h2⟩ := grammar_spans g hg G adm
  refine ⟨g', h1, h2.eraseSpans, ?_⟩
  intro i st hi
  obtain ⟨st', hget, hp⟩ := h2.get i st hi
  rw [adv_add'] at hp
  obtain ⟨pre, post, htext, hlen⟩ := stmtStart_text G.semi g G.stmt i st hi
  have hX : ppGrammarL' G g = (G.lead ++ pre) ++ ppBodyL' (G.stmt i) st ++ post := by
    simp [ppGrammarL', htext, List.append_assoc]
  have hoff : stmtOffset G g i = (G.lead ++ pre).length := by simp [stmtOffset, hlen]
  have htake : (ppGrammarL' G g).take (stmtOffset G g i) = G.lead ++ pre := by
    rw [hoff]
    conv => lhs; rw [hX, List.append_assoc]
    exact List.take_left
  have hsp := hp.spans
  refine ⟨st', hget, ⟨post, by rw [htake]; exact hX⟩, hp, hsp, ?_, ?_⟩
  · rw [hoff]
    exact stmtOffs_own_text _ (G.stmt i) st (hg st (List.mem_of_getElem? hi)) _ post hX
  · intro sp hsp'
    rw [hsp, List.mem_map] at hsp'
    obtain ⟨ab, hab, rfl⟩ := hsp'
    exact ⟨ab, hab, spanAt_init _ ab⟩

/-- **`Grammar::parse` reads back a printed grammar, whatever the layout**: a grammar of the fragment
printed with any admissible layout is parsed as the same grammar up to spans. -/
theorem grammar_roundtrip_layout (g : Grammar) (hg : ∀ st ∈ g, StmtNF st) (G : GLayout) (adm : G.Adm g) :
    ∃ g', parse (ppGrammarL G g) = .ok g' ∧ g'.map Stmt.eraseSpans = g.map Stmt.eraseSpans := by
  have h := grammar_roundtrip_full_layout g (fun st hst => StmtNF_sub st (hg st hst)) G.toFull adm.toFull
  rwa [ppGrammarL'_toFull G g hg] at h

/-- **The layout of a file does not matter**: two printed forms of one grammar, under two admissible
layouts, are parsed as grammars that differ in their spans only. -/
theorem grammar_layout_irrelevant (g : Grammar) (hg : ∀ st ∈ g, StmtNF st) (G₁ G₂ : GLayout)
    (adm₁ : G₁.Adm g) (adm₂ : G₂.Adm g) :
    ∃ g₁ g₂, parse (ppGrammarL G₁ g) = .ok g₁ ∧ parse (ppGrammarL G₂ g) = .ok g₂ ∧
      g₁.map Stmt.eraseSpans = g₂.map Stmt.eraseSpans :=
  agree_of_roundtrip (grammar_roundtrip_layout g hg G₁ adm₁) (grammar_roundtrip_layout g hg G₂ adm₂)

/-- **`Grammar::parse` reads back what the plain printer writes**, up to spans -/
theorem grammar_roundtrip (g : Grammar) (hg : ∀ st ∈ g, StmtNF st) :
    ∃ g', parse (ppGrammar g) = .ok g' ∧ g'.map Stmt.eraseSpans = g.map Stmt.eraseSpans := by
  rw [ppGrammar_eq]
  exact grammar_roundtrip_layout g hg (plainG g.length) (plainG_adm g)

theorem grammar_layout_vs_plain (g : Grammar) (hg : ∀ st ∈ g, StmtNF st) (G : GLayout) (adm : G.Adm g) :
    ∃ g₁ g₂, parse (ppGrammarL G g) = .ok g₁ ∧ parse (ppGrammar g) = .ok g₂ ∧
      g₁.map Stmt.eraseSpans = g₂.map Stmt.eraseSpans := by
  rw [ppGrammar_eq]
  exact grammar_layout_irrelevant g hg G (plainG g.length) adm (plainG_adm g)

/-- **`statement` reads back a printed statement**: the statement `st` of the fragment printed with the
admissible layout `L` (with its `;` and the layout after it, or, `semi = false`, as the last statement of
a file that does not end in `;`), followed by a text `rest` at which `multiblanks0` stops (the end of
the file, or a character that is neither a blank nor `#`: the next statement), is parsed by `statement`
as `st` up to spans; exactly the printed text, with the layout that follows `;`, is consumed. -/
theorem statement_roundtrip_layout (st : Stmt) (hst : StmtNF st) (L : StmtLayout) (adm : L.Adm st)
    (semi : Bool) (rest : List Char) (hrest : NBHead rest) (hsemi : semi = false → rest = [])
    (s : PState) (hs : s.rest = ppStmtL L semi st ++ rest) (fuel : Nat) (hf : need st.expr ≤ fuel) :
    ∃ st', statement fuel s = some (s.adv (ppStmtL L semi st).length, st') ∧
      st'.eraseSpans = st.eraseSpans := by
  rw [← ppStmtL'_toFull L semi st hst] at hs ⊢
  have hT : ReadsExpr fuel (ppL' L.toFull.expr 0 st.expr) (fun _ e' => e'.eraseSpans = st.expr.eraseSpans) := by
    intro r hr s' hs'
    rw [show ppL' L.toFull.expr 0 st.expr = ppL L.expr 0 st.expr from
      ppL'_ofLayout st.expr hst.expr L.expr _ 0 (Nat.zero_le 4)] at hs' ⊢
    exact fallback_roundtrip_need st.expr hst.expr L.expr adm.expr r hr s' hs' fuel hf
  obtain ⟨e', h, hE⟩ := statement_reads st (StmtNF_sub st hst) L.toFull adm.toFull semi rest hrest hsemi s hs hT
  exact ⟨_, h, parsedStmt_eraseSpans s st e' hE⟩

theorem statement_roundtrip_layout_fuelNeeded (st : Stmt) (hst : StmtNF st) (L : StmtLayout) (adm : L.Adm st)
    (semi : Bool) (rest : List Char) (hrest : NBHead rest) (hsemi : semi = false → rest = [])
    (s : PState) (hs : s.rest = ppStmtL L semi st ++ rest) (fuel : Nat) (hf : fuelNeeded st.expr ≤ fuel) :
    ∃ st', statement fuel s = some (s.adv (ppStmtL L semi st).length, st') ∧
      st'.eraseSpans = st.eraseSpans :=
  statement_roundtrip_layout st hst L adm semi rest hrest hsemi s hs fuel
    (Nat.le_trans (need_le_fuelNeeded _) hf)

/-- **`statement` reads back a plainly printed statement** followed by a text at which `multiblanks0`
stops (instance of `statement_roundtrip_layout`; `need e ≤ fuelNeeded e` by `need_le_fuelNeeded`) -/
theorem statement_roundtrip (st : Stmt) (hst : StmtNF st) (rest : List Char) (hrest : NBHead rest)
    (s : PState) (hs : s.rest = ppStmt st ++ rest) (fuel : Nat) (hf : need st.expr ≤ fuel) :
    ∃ st', statement fuel s = some (s.adv (ppStmt st).length, st') ∧ st'.eraseSpans = st.eraseSpans := by
  have e := ppStmtL_plain false st
  simp only [Bool.false_eq_true, if_false, List.append_nil] at e
  rw [← e] at hs ⊢
  exact statement_roundtrip_layout st hst (plainStmt false) (plainStmt_adm false st) true rest hrest
    (fun h => by cases h) s hs fuel hf

/-! ### examples (the theorems are not vacuous) -/

/-- the plain text of the example is parsed as the example, up to spans -/
example : ∃ g', parse "cmd a <X>;\n<X> ::= b | [c];".toList = .ok g' ∧
    g'.map Stmt.eraseSpans = exGrammar.map Stmt.eraseSpans := by
  have h := grammar_roundtrip exGrammar exGrammar_nf
  rwa [ppGrammar_exGrammar] at h

example : ∃ g', parse "# example\ncmd\ta <X> ;\n\n# next\n<X>\t=b | [c] ".toList = .ok g' ∧
    g'.map Stmt.eraseSpans = exGrammar.map Stmt.eraseSpans := by
  have h := grammar_roundtrip_layout exGrammar exGrammar_nf exLayout exLayout_adm
  rwa [ppGrammarL_exLayout] at h

/-- why `need`: for `c a b | c d || a b | c d;` the bound `fuelNeeded` exceeds the
fuel `Grammar::parse` provides, `need` does not -/
def exDeep : Expr :=
  let ab : Expr := .seq (.cons (.term "a" none 0 default) (.cons (.term "b" none 0 default) .nil)) default
  let cd : Expr := .seq (.cons (.term "c" none 0 default) (.cons (.term "d" none 0 default) .nil)) default
  let alt : Expr := .alt (.cons ab (.cons cd .nil)) default
  .fb (.cons alt (.cons alt .nil)) default

example : ppGrammar [.call "c" default exDeep] = "c a b | c d || a b | c d;".toList := eq_toList_of_ofList_eq rfl
example : fuelFor (ppGrammar [.call "c" default exDeep]).length < fuelNeeded exDeep := by decide +kernel
example : need exDeep ≤ fuelFor (ppGrammar [.call "c" default exDeep]).length := by decide +kernel

namespace Full

/-- the plain text of the example is parsed as the example, up to spans -/
example : ∃ g', parse
      "cmd a \"d\" (b | c.) \"x\" [--o=<V>]...;\n<V> ::= {{{ ls }}} \"files\" | x\\|y;".toList = .ok g' ∧
    g'.map Stmt.eraseSpans = exGrammar'.map Stmt.eraseSpans := by
  have h := grammar_roundtrip_full exGrammar' exGrammar'_nf
  rwa [ppGrammar'_exGrammar'] at h

/-- the example with comments everywhere is parsed as its plain text is, up to spans -/
example : ∃ g₁ g₂, parse (ppGrammarL' exGLayout' exGrammar') = .ok g₁ ∧
    parse "cmd a \"d\" (b | c.) \"x\" [--o=<V>]...;\n<V> ::= {{{ ls }}} \"files\" | x\\|y;".toList = .ok g₂ ∧
    g₁.map Stmt.eraseSpans = g₂.map Stmt.eraseSpans := by
  have h := grammar_layout_vs_plain_full exGrammar' exGrammar'_nf exGLayout' exGLayout'_adm
  rwa [ppGrammar'_exGrammar'] at h

/-- the example of `Proofs/StatementsFull.lean` with comments everywhere: the theorem applies -/
example : ∃ g', parse (ppGrammarL' exGLayout' exGrammar') = .ok g' ∧
    StmtsPlaced exGLayout'.semi ((PState.init (ppGrammarL' exGLayout' exGrammar')).adv exGLayout'.lead.length)
      exGLayout'.stmt exGrammar' g' :=
  grammar_spans exGrammar' exGrammar'_nf exGLayout' exGLayout'_adm

def stmtsRead (txt : String) : Option (List (List Span)) :=
  match parse txt.toList with
  | .ok g => some (g.map stmtSpans)
  | .error _ => none

set_option maxRecDepth 100000 in
/-- the name of a command; `<V@bash>` from `<` to `>` and `bash`; the expressions -/
example : stmtsRead "cmd a;\n<V@bash> ::= x;" =
    some [[⟨1, 1, 4⟩, ⟨1, 5, 6⟩], [⟨2, 1, 9⟩, ⟨2, 4, 8⟩, ⟨2, 14, 15⟩]] := by decide +kernel

end Full

end Complgen.Parse
