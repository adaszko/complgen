/-
C17: the calls of the external commands, over the model of the bash template with call recording
(`Model/BashRtCalls.lean`, whose call sequence is compared with the probe log of the real bash on
every explored command line).  For each recording function, in the order of the model:
  * `…_fst`, recording changes nothing: its first component is the function of `Model/BashRt.lean`;
  * `…_calls`, every call has one of the three forms of the template: `("", "")` while reading an earlier
    word, `(typed prefix, "")` while collecting candidates between words, and inside a word
    `(rest of the word, part already read)` — the two arguments always split the word at hand.
-/
import Complgen.Model.BashRtCalls
import Complgen.Proofs.Offer
namespace Complgen.BashRt

def Splits (w : List Char) (c : Call) : Prop :=
  ∃ i, c.2.2 = String.ofList (w.take i) ∧ c.2.1 = String.ofList (w.drop i)

theorem splits_concat (w : String) (c : Call) (h : Splits w.toList c) : c.2.2 ++ c.2.1 = w := by
  obtain ⟨i, h1, h2⟩ := h
  rw [h1, h2, ← String.ofList_append, List.take_append_drop, String.ofList_toList]

theorem cmdPassL_fst (out : Nat → List String) (sub : List Char) (matched : String) :
    ∀ row : List (Nat × Nat), (cmdPassL out sub matched row).1 = cmdPass out sub row
  | [] => rfl
  | (cmd, to) :: rest => by
    unfold cmdPassL cmdPass
    simp only
    cases candPass to sub (byDecreasingLength ((out cmd).filter (· ≠ ""))) with
    | nothing => simp [cmdPassL_fst out sub matched rest]
    | stop => rfl
    | consumed q n => rfl

theorem cmdPassL_calls (out : Nat → List String) (sub : List Char) (matched : String) :
    ∀ (row : List (Nat × Nat)) (c : Call), c ∈ (cmdPassL out sub matched row).2 →
      c.2.1 = String.ofList sub ∧ c.2.2 = matched
  | [], c, h => by simp [cmdPassL] at h
  | (cmd, to) :: rest, c, h => by
    unfold cmdPassL at h
    simp only at h
    cases hcp : candPass to sub (byDecreasingLength ((out cmd).filter (· ≠ ""))) with
    | nothing =>
      rw [hcp] at h
      simp only [List.mem_cons] at h
      rcases h with rfl | h
      · exact ⟨rfl, rfl⟩
      · exact cmdPassL_calls out sub matched rest c h
    | stop => rw [hcp] at h; simp only [List.mem_singleton] at h; subst h; exact ⟨rfl, rfl⟩
    | consumed q n => rw [hcp] at h; simp only [List.mem_singleton] at h; subst h; exact ⟨rfl, rfl⟩

def cmdStepL (T : Tables) (out : Nat → List String) (word : List Char) (q i : Nat) : Step × List Call :=
  match rowOf T.cmdTrans q with
  | some row => cmdPassL out (word.drop i) (String.ofList (word.take i)) row
  | none => (.nothing, [])

theorem cmdStepL_fst (T : Tables) (out : Nat → List String) (word : List Char) (q i : Nat) :
    (cmdStepL T out word q i).1 = cmdStep T out q (word.drop i) := by
  unfold cmdStepL cmdStep
  cases rowOf T.cmdTrans q with
  | none => rfl
  | some row => exact cmdPassL_fst out _ _ row

theorem cmdStepL_calls (T : Tables) (out : Nat → List String) (word : List Char) (q i : Nat) (c : Call)
    (h : c ∈ (cmdStepL T out word q i).2) : Splits word c := by
  unfold cmdStepL at h
  cases hr : rowOf T.cmdTrans q with
  | none => rw [hr] at h; cases h
  | some row =>
    rw [hr] at h
    obtain ⟨h1, h2⟩ := cmdPassL_calls out _ _ row c h
    exact ⟨i, h2, h1⟩

theorem subLoopL_succ (T : Tables) (out : Nat → List String) (mode : Mode) (w : List Char) (fuel q i : Nat) :
    subLoopL T out mode w (fuel + 1) q i =
      if i ≥ w.length then ((q, i, true), []) else
      match litStep T mode q (w.drop i) with
      | .consumed q' n => if n = 0 then ((q, i, false), []) else subLoopL T out mode w fuel q' (i + n)
      | .stop => ((q, i, false), [])
      | .nothing =>
        let s2 := cmdStepL T out w q i
        match s2.1 with
        | .consumed q' n =>
          if n = 0 then ((q, i, false), s2.2)
          else let r := subLoopL T out mode w fuel q' (i + n); (r.1, s2.2 ++ r.2)
        | .stop => ((q, i, false), s2.2)
        | .nothing =>
          if (T.star.find? (·.1 == q)).isSome then ((q, i, true), s2.2) else ((q, i, false), s2.2) := rfl

theorem subLoopL_fst (T : Tables) (out : Nat → List String) (mode : Mode) (word : List Char) :
    ∀ (fuel q i : Nat), (subLoopL T out mode word fuel q i).1 = subLoop T out mode word fuel q i
  | 0, q, i => rfl
  | fuel + 1, q, i => by
    rw [subLoopL_succ, subLoop_succ, ← cmdStepL_fst T out word q i]
    split
    · rfl
    · cases litStep T mode q (word.drop i) with
      | consumed q' n =>
        simp only
        split
        · rfl
        · exact subLoopL_fst T out mode word fuel q' (i + n)
      | stop => rfl
      | nothing =>
        simp only
        cases (cmdStepL T out word q i).1 with
        | consumed q' n =>
          simp only
          split
          · rfl
          · exact subLoopL_fst T out mode word fuel q' (i + n)
        | stop => rfl
        | nothing => simp only; split <;> rfl

theorem subLoopL_calls (T : Tables) (out : Nat → List String) (mode : Mode) (word : List Char) :
    ∀ (fuel q i : Nat) (c : Call), c ∈ (subLoopL T out mode word fuel q i).2 → Splits word c
  | 0, q, i, c, h => by simp [subLoopL] at h
  | fuel + 1, q, i, c, h => by
    rw [subLoopL_succ] at h
    have hcmd := cmdStepL_calls T out word q i c
    split at h
    · cases h
    · split at h
      next q' n _ =>
        split at h
        · cases h
        · exact subLoopL_calls T out mode word fuel q' (i + n) c h
      · cases h
      · simp only at h
        split at h
        next q' n _ =>
          split at h
          · exact hcmd h
          · rcases List.mem_append.mp h with h | h
            · exact hcmd h
            · exact subLoopL_calls T out mode word fuel q' (i + n) c h
        · exact hcmd h
        · split at h <;> exact hcmd h

theorem subMatchesL_fst (T : Tables) (out : Nat → List String) (word : String) :
    (subMatchesL T out word).1 = subMatches T out word := by
  unfold subMatchesL subMatches
  simp only [subLoopL_fst]

theorem subMatchesL_calls (T : Tables) (out : Nat → List String) (word : String) (c : Call)
    (h : c ∈ (subMatchesL T out word).2) : Splits word.toList c := by
  unfold subMatchesL at h
  exact subLoopL_calls T out _ _ _ _ _ c h

theorem subCompleteL_levels_fst (T : Tables) (out : Nat → List String) (w : List Char) (q : Nat) (matched : String)
    (completed : List Char) : ∀ (fuel lvl : Nat) (cands : List String),
      (subCompleteL.levels T out w q matched completed fuel lvl cands).1 =
        subComplete.levels T out w q matched completed fuel lvl cands
  | 0, _, _ => rfl
  | fuel + 1, lvl, cands => by
    unfold subCompleteL.levels subComplete.levels
    simp only
    split
    · rfl
    · split
      · rfl
      · exact subCompleteL_levels_fst T out w q matched completed fuel (lvl + 1) _

theorem subCompleteL_levels_calls (T : Tables) (out : Nat → List String) (w : List Char) (q i : Nat) :
    ∀ (fuel lvl : Nat) (cands : List String) (c : Call),
      c ∈ (subCompleteL.levels T out w q (String.ofList (w.take i)) (w.drop i) fuel lvl cands).2 → Splits w c
  | 0, _, _, c, h => by simp [subCompleteL.levels] at h
  | fuel + 1, lvl, cands, c, h => by
    unfold subCompleteL.levels at h
    simp only at h
    have hc : ∀ c : Call, c ∈ (idsAt T.cmdLevels lvl q).map (fun cmd => ((cmd, String.ofList (w.drop i), String.ofList (w.take i)) : Call)) →
        Splits w c := by
      intro c hc
      obtain ⟨cmd, _, rfl⟩ := List.mem_map.mp hc
      exact ⟨i, rfl, rfl⟩
    split at h
    · exact hc c h
    · split at h
      · exact hc c h
      · simp only [List.mem_append] at h
        rcases h with h | h
        · exact hc c h
        · exact subCompleteL_levels_calls T out w q i fuel (lvl + 1) _ c h

theorem subCompleteL_fst (T : Tables) (out : Nat → List String) (word : String) :
    (subCompleteL T out word).1 = subComplete T out word := by
  unfold subCompleteL subComplete
  simp only
  rw [subCompleteL_levels_fst]
  have h := subLoopL_fst T out .complete word.toList (word.toList.length + 1) 0 0
  rw [← h]

theorem subCompleteL_calls (T : Tables) (out : Nat → List String) (word : String) (c : Call)
    (h : c ∈ (subCompleteL T out word).2) : Splits word.toList c := by
  unfold subCompleteL at h
  simp only [List.mem_append] at h
  rcases h with h | h
  · exact subLoopL_calls T out _ _ _ _ _ c h
  · exact subCompleteL_levels_calls T out word.toList _ _ _ _ _ c h

theorem trySubs_fst (S : Script) (word : String) : ∀ row : List (Nat × Nat),
    (trySubs S word row).1 = row.findSome? fun (id, to) => if subMatches (S.sub id) S.out word then some to else none
  | [] => rfl
  | (id, to) :: rest => by
    unfold trySubs
    simp only [List.findSome?_cons, subMatchesL_fst]
    by_cases h : subMatches (S.sub id) S.out word = true
    · simp [h]
    · simp only [h, Bool.false_eq_true, if_false]
      exact trySubs_fst S word rest

theorem trySubs_calls (S : Script) (word : String) : ∀ (row : List (Nat × Nat)) (c : Call),
    c ∈ (trySubs S word row).2 → Splits word.toList c
  | [], c, h => by simp [trySubs] at h
  | (id, to) :: rest, c, h => by
    unfold trySubs at h
    simp only at h
    split at h
    · exact subMatchesL_calls _ _ word c h
    · simp only [List.mem_append] at h
      rcases h with h | h
      · exact subMatchesL_calls _ _ word c h
      · exact trySubs_calls S word rest c h

theorem tryCmds_fst (S : Script) (word : String) : ∀ row : List (Nat × Nat),
    (tryCmds S word row).1 = row.findSome? fun (cmd, to) => if (S.out cmd).contains word then some to else none
  | [] => rfl
  | (cmd, to) :: rest => by
    unfold tryCmds
    simp only [List.findSome?_cons]
    by_cases h : (S.out cmd).contains word = true
    · simp only [h, if_true]
    · simp only [h, Bool.false_eq_true, if_false]
      exact tryCmds_fst S word rest

theorem tryCmds_calls (S : Script) (word : String) : ∀ (row : List (Nat × Nat)) (c : Call),
    c ∈ (tryCmds S word row).2 → c.2 = ("", "")
  | [], c, h => by simp [tryCmds] at h
  | (cmd, to) :: rest, c, h => by
    unfold tryCmds at h
    split at h
    · simp only [List.mem_singleton] at h; subst h; rfl
    · simp only [List.mem_cons] at h
      rcases h with rfl | h
      · rfl
      · exact tryCmds_calls S word rest c h

theorem readWordL_fst (S : Script) (q : Nat) (word : String) : (readWordL S q word).1 = readWord S q word := by
  -- the cascade of the two functions, on any outcomes of the four lookups
  have erase : ∀ (lit : Option Nat) (sw cm : Option Nat × List Call) (seen : Bool) (star : Option (Nat × Nat)),
      (match lit with
        | some q' => (((some q', false) : Option Nat × Bool), ([] : List Call))
        | none =>
          match sw.1 with
          | some q' => ((some q', false), sw.2)
          | none =>
            match cm.1 with
            | some q' => ((some q', seen), sw.2 ++ cm.2)
            | none =>
              match star with
              | some (_, q') => ((some q', seen), sw.2 ++ cm.2)
              | none => ((none, seen), sw.2 ++ cm.2)).1 =
      match lit with
        | some q' => (some q', false)
        | none =>
          match sw.1 with
          | some q' => (some q', false)
          | none =>
            match cm.1 with
            | some q' => (some q', seen)
            | none =>
              match star with
              | some (_, q') => (some q', seen)
              | none => (none, seen) := by
    intro lit sw cm seen star
    cases lit <;> cases sw.1 <;> cases cm.1 <;> cases star <;> rfl
  unfold readWordL readWord
  simp only [← tryCmds_fst]
  cases rowOf S.main.subTrans q with
  | none =>
    cases rowOf S.main.litTrans q with
    | none => exact erase none (none, []) _ _ _
    | some lrow => exact erase _ (none, []) _ _ _
  | some row =>
    simp only [← trySubs_fst]
    cases rowOf S.main.litTrans q with
    | none => exact erase none _ _ _ _
    | some lrow => exact erase _ _ _ _ _

theorem readWordL_calls (S : Script) (q : Nat) (word : String) (c : Call)
    (h : c ∈ (readWordL S q word).2) : Splits word.toList c ∨ c.2 = ("", "") := by
  unfold readWordL at h
  simp only at h
  have hsw : ∀ c : Call, c ∈ (match rowOf S.main.subTrans q with
      | some row => trySubs S word row
      | none => (none, [])).2 → Splits word.toList c := by
    intro c hc
    cases hr : rowOf S.main.subTrans q with
    | none => rw [hr] at hc; simp at hc
    | some row => rw [hr] at hc; exact trySubs_calls S word row c hc
  have hcm : ∀ c : Call, c ∈ (tryCmds S word ((rowOf S.main.cmdTrans q).getD [])).2 → c.2 = ("", "") :=
    fun c hc => tryCmds_calls S word _ c hc
  split at h
  · simp at h
  · split at h
    · exact .inl (hsw c h)
    · split at h
      · simp only [List.mem_append] at h
        rcases h with h | h
        · exact .inl (hsw c h)
        · exact .inr (hcm c h)
      · split at h <;>
        · simp only [List.mem_append] at h
          rcases h with h | h
          · exact .inl (hsw c h)
          · exact .inr (hcm c h)

theorem walkL_fst (S : Script) : ∀ (q : Nat) (ws : List String), (walkL S q ws).1 = walk S q ws
  | q, [] => rfl
  | q, w :: ws => by
    unfold walkL walk
    simp only
    rw [readWordL_fst]
    cases readWord S q w with
    | mk o seen =>
      cases o with
      | none => rfl
      | some q' => exact walkL_fst S q' ws

theorem walkL_calls (S : Script) : ∀ (q : Nat) (ws : List String) (c : Call), c ∈ (walkL S q ws).2 →
    (∃ w ∈ ws, Splits w.toList c) ∨ c.2 = ("", "")
  | q, [], c, h => by simp [walkL] at h
  | q, w :: ws, c, h => by
    unfold walkL at h
    simp only at h
    have hr := readWordL_calls S q w
    split at h
    · simp only [List.mem_append] at h
      rcases h with h | h
      · rcases hr c h with h1 | h1
        · exact .inl ⟨w, by simp, h1⟩
        · exact .inr h1
      · rename_i q' _ _
        rcases walkL_calls S q' ws c h with ⟨w', hw', h1⟩ | h1
        · exact .inl ⟨w', List.mem_cons_of_mem _ hw', h1⟩
        · exact .inr h1
    · rcases hr c h with h1 | h1
      · exact .inl ⟨w, by simp, h1⟩
      · exact .inr h1

theorem subCompletes_fst (S : Script) (prefix_ : String) : ∀ ids : List Nat,
    (subCompletes S prefix_ ids).1 = ids.flatMap fun id => subComplete (S.sub id) S.out prefix_
  | [] => rfl
  | id :: rest => by
    unfold subCompletes
    simp only [List.flatMap_cons, subCompleteL_fst, subCompletes_fst S prefix_ rest]

theorem subCompletes_calls (S : Script) (prefix_ : String) : ∀ (ids : List Nat) (c : Call),
    c ∈ (subCompletes S prefix_ ids).2 → Splits prefix_.toList c
  | [], c, h => by simp [subCompletes] at h
  | id :: rest, c, h => by
    unfold subCompletes at h
    simp only [List.mem_append] at h
    rcases h with h | h
    · exact subCompleteL_calls _ _ prefix_ c h
    · exact subCompletes_calls S prefix_ rest c h

theorem offerL_levels_fst (S : Script) (q : Nat) (prefix_ : String) : ∀ (fuel lvl : Nat) (cands : List String),
    (offerL.levels S q prefix_ S.main prefix_.toList fuel lvl cands).1 =
      offer.levels S q prefix_ S.main prefix_.toList fuel lvl cands
  | 0, _, _ => rfl
  | fuel + 1, lvl, cands => by
    unfold offerL.levels offer.levels
    simp only [subCompletes_fst]
    split
    · rfl
    · split
      · rfl
      · exact offerL_levels_fst S q prefix_ fuel (lvl + 1) _

theorem offerL_fst (S : Script) (q : Nat) (prefix_ : String) : (offerL S q prefix_).1 = offer S q prefix_ := by
  unfold offerL offer
  exact offerL_levels_fst S q prefix_ _ _ _

theorem offerL_levels_calls (S : Script) (q : Nat) (prefix_ : String) :
    ∀ (fuel lvl : Nat) (cands : List String) (c : Call),
      c ∈ (offerL.levels S q prefix_ S.main prefix_.toList fuel lvl cands).2 →
      Splits prefix_.toList c ∨ c.2 = (prefix_, "")
  | 0, _, _, c, h => by simp [offerL.levels] at h
  | fuel + 1, lvl, cands, c, h => by
    unfold offerL.levels at h
    simp only at h
    have hc : ∀ c : Call, c ∈ (subCompletes S prefix_ (idsAt S.main.subLevels lvl q)).2 ++
        (idsAt S.main.cmdLevels lvl q).map (fun cmd => ((cmd, prefix_, "") : Call)) →
        Splits prefix_.toList c ∨ c.2 = (prefix_, "") := by
      intro c hc
      rcases List.mem_append.mp hc with h1 | h1
      · exact .inl (subCompletes_calls S prefix_ _ c h1)
      · obtain ⟨cmd, _, rfl⟩ := List.mem_map.mp h1
        exact .inr rfl
    split at h
    · exact hc c h
    · split at h
      · exact hc c h
      · rcases List.mem_append.mp h with h | h
        · exact hc c h
        · exact offerL_levels_calls S q prefix_ fuel (lvl + 1) _ c h

theorem offerL_calls (S : Script) (q : Nat) (prefix_ : String) (c : Call) (h : c ∈ (offerL S q prefix_).2) :
    Splits prefix_.toList c ∨ c.2 = (prefix_, "") := by
  unfold offerL at h
  exact offerL_levels_calls S q prefix_ _ _ _ c h

/-- **Recording the calls changes nothing**: the candidates and the return code are those of the
model without recording (the one C01's and C12's theorems are about). -/
theorem completeL_fst (S : Script) (start : Nat) (words : List String) (prefix_ wb : String) :
    (completeL S start words prefix_ wb).1 = complete S start words prefix_ wb := by
  unfold completeL complete
  simp only
  rw [walkL_fst]
  cases walk S start words with
  | unmatched => rfl
  | state q => simp only [offerL_fst]

/-- **Every call of an external command has one of the three forms of the template**: while an
earlier word is read at top level `("", "")`; while candidates are collected between words
`(typed text, "")`; inside a word — an earlier word or the one being completed — the two arguments
are the rest of that word and the part of it already read. -/
theorem completeL_calls (S : Script) (start : Nat) (words : List String) (prefix_ wb : String) (c : Call)
    (h : c ∈ (completeL S start words prefix_ wb).2) :
    c.2 = ("", "") ∨ c.2 = (prefix_, "") ∨ ∃ w ∈ words ++ [prefix_], c.2.2 ++ c.2.1 = w := by
  unfold completeL at h
  simp only at h
  have hw := walkL_calls S start words
  split at h
  · rcases hw c h with ⟨w, hwm, h1⟩ | h1
    · exact .inr (.inr ⟨w, List.mem_append_left _ hwm, splits_concat w c h1⟩)
    · exact .inl h1
  · simp only [List.mem_append] at h
    rcases h with h | h
    · rcases hw c h with ⟨w, hwm, h1⟩ | h1
      · exact .inr (.inr ⟨w, List.mem_append_left _ hwm, splits_concat w c h1⟩)
      · exact .inl h1
    · rcases offerL_calls S _ prefix_ c h with h1 | h1
      · exact .inr (.inr ⟨prefix_, by simp, splits_concat prefix_ c h1⟩)
      · exact .inr (.inl h1)

end Complgen.BashRt
