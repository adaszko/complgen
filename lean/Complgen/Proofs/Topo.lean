/-
The depth-first traversal of check.rs (`get_nonterminals_resolution_order`,
`traverse_nonterminal_dependencies_dfs`), as modelled in `Model/Check.lean`: when it succeeds, the
order it returns lists every vertex once and after everything it depends on.
-/
import Complgen.Proofs.AList
namespace Complgen.Check

def kids (G : Graph) (v : String) : List String := ((G.get? v).getD []).map (·.1)
def verts (G : Graph) : List String := G.map (·.1)

def Closed (G : Graph) (R : List String) : Prop :=
  ∀ pre n post, R = pre ++ n :: post → ∀ c ∈ kids G n, c ∈ pre

/-- the invariant of the traversal, `path` being the vertices entered and not yet left -/
structure DfsInv (G : Graph) (path : List String) (st : DfsState) : Prop where
  nodup : st.result.Nodup
  closed : Closed G st.result
  vis : ∀ u ∈ st.visited, u ∈ st.result ∨ u ∈ path
  res : ∀ u ∈ st.result, u ∈ st.visited ∧ u ∉ path

structure DfsPost (G : Graph) (path : List String) (v : String) (st st' : DfsState) : Prop where
  inv : DfsInv G path st'
  mono_v : ∀ u ∈ st.visited, u ∈ st'.visited
  mono_r : ∀ u ∈ st.result, u ∈ st'.result
  self : v ∈ st'.visited
  children : ∀ c ∈ kids G v, c ∈ st'.result

/-- the fuel has to cover the vertices not on the path -/
def DfsSpec (G : Graph) (fuel : Nat) : Prop :=
  ∀ (v : String) (path : List (String × Span)) (st st' : DfsState),
    DfsInv G (path.map (·.1)) st → v ∈ path.map (·.1) → v ∉ st.visited → (path.map (·.1)).Nodup →
    (∀ u ∈ path.map (·.1), u ∈ verts G) → (verts G).length + 1 ≤ path.length + fuel →
    dfs G fuel v path st = .ok st' → DfsPost G (path.map (·.1)) v st st'

theorem closed_snoc (G : Graph) (R : List String) (c : String) (h : Closed G R) (hk : ∀ k ∈ kids G c, k ∈ R) :
    Closed G (R ++ [c]) := by
  intro pre n post e k hkn
  rcases List.eq_nil_or_concat post with rfl | ⟨post', x, rfl⟩
  · -- `n` is the new last element
    have : R ++ [c] = pre ++ [n] := e
    have h2 := List.append_inj' this rfl
    obtain ⟨h3, h4⟩ := h2
    simp only [List.cons.injEq, and_true] at h4
    subst h3 h4
    exact hk k hkn
  · have : R ++ [c] = (pre ++ n :: post') ++ [x] := by simp [e]
    have h2 := List.append_inj' this rfl
    exact h pre n post' h2.1 k hkn

theorem DfsInv.extend {G : Graph} {path : List String} {st : DfsState} (inv : DfsInv G path st) {c : String}
    (hcv : c ∉ st.visited) : DfsInv G (path ++ [c]) st := by
  refine ⟨inv.nodup, inv.closed, fun u hu => ?_, fun u hu => ?_⟩
  · exact (inv.vis u hu).imp id (List.mem_append_left _)
  · refine ⟨(inv.res u hu).1, fun hmem => ?_⟩
    rcases List.mem_append.mp hmem with h1 | h1
    · exact (inv.res u hu).2 h1
    · exact hcv (List.mem_singleton.mp h1 ▸ (inv.res u hu).1)

theorem DfsPost.push {G : Graph} {path : List String} {c : String} {st st1 : DfsState}
    (post : DfsPost G (path ++ [c]) c st st1) (hcp : c ∉ path) :
    DfsInv G path { visited := st1.visited, result := st1.result ++ [c] } := by
  refine ⟨?_, closed_snoc G st1.result c post.inv.closed post.children, fun u hu => ?_, fun u hu => ?_⟩
  · have hc1 : c ∉ st1.result := fun e => (post.inv.res c e).2 (by simp)
    exact List.nodup_append.mpr ⟨post.inv.nodup, by simp, fun a ha b hb e =>
      hc1 (List.mem_singleton.mp hb ▸ e ▸ ha)⟩
  · rcases post.inv.vis u hu with h1 | h1
    · exact .inl (List.mem_append_left _ h1)
    · rcases List.mem_append.mp h1 with h2 | h2
      · exact .inr h2
      · exact .inl (List.mem_append_right _ h2)
  · rcases List.mem_append.mp hu with h1 | h1
    · exact ⟨(post.inv.res u h1).1, fun e => (post.inv.res u h1).2 (List.mem_append_left _ e)⟩
    · rw [List.mem_singleton.mp h1]
      exact ⟨post.self, hcp⟩

theorem go_spec (G : Graph) (fuel : Nat) (ih : DfsSpec G fuel) (v : String) (path : List (String × Span))
    (hnd : (path.map (·.1)).Nodup) (hV : ∀ u ∈ path.map (·.1), u ∈ verts G)
    (hfuel : (verts G).length + 1 ≤ path.length + 1 + fuel) :
    ∀ (rest : List (String × Span)) (st st' : DfsState), DfsInv G (path.map (·.1)) st →
      (∀ c ∈ rest.map (·.1), c ∈ verts G) →
      dfs.go G fuel v path rest st = .ok st' →
      DfsInv G (path.map (·.1)) st' ∧ (∀ u ∈ st.visited, u ∈ st'.visited) ∧ (∀ u ∈ st.result, u ∈ st'.result) ∧
        (∀ c ∈ rest.map (·.1), c ∈ st'.result)
  | [], st, st', inv, _, h => by
    rw [dfs.go.eq_1] at h
    cases h
    exact ⟨inv, fun _ h => h, fun _ h => h, fun _ h => by cases h⟩
  | (c, sp) :: rest, st, st', inv, hrest, h => by
    rw [dfs.go.eq_2] at h
    have hrest' : ∀ c' ∈ rest.map (·.1), c' ∈ verts G := fun c' hc' => hrest c' (by simp at hc' ⊢; exact .inr hc')
    by_cases hp : (path.any fun x => x.1 == c) = true
    · simp [hp] at h
    · simp only [hp] at h
      have hcp : c ∉ path.map (·.1) := fun e => hp ((contains_iff_key path c).mpr e)
      by_cases hv : st.visited.contains c = true
      · simp only [hv, if_true] at h
        have hcv : c ∈ st.visited := List.contains_iff_mem.mp hv
        have hcr : c ∈ st.result := by
          rcases inv.vis c hcv with h1 | h1
          · exact h1
          · exact absurd h1 hcp
        obtain ⟨i1, i2, i3, i4⟩ := go_spec G fuel ih v path hnd hV hfuel rest st st' inv hrest' h
        refine ⟨i1, i2, i3, ?_⟩
        intro c' hc'
        simp only [List.map_cons, List.mem_cons] at hc'
        rcases hc' with rfl | hc'
        · exact i3 _ hcr
        · exact i4 c' hc'
      · simp only [hv] at h
        have hcv : c ∉ st.visited := fun e => hv (List.contains_iff_mem.mpr e)
        cases hd : dfs G fuel c (path ++ [(c, sp)]) st with
        | error e => rw [hd] at h; cases h
        | ok st1 =>
          rw [hd] at h
          simp only at h
          have hpn : (path ++ [(c, sp)]).map (·.1) = path.map (·.1) ++ [c] := by simp
          have inv1 : DfsInv G ((path ++ [(c, sp)]).map (·.1)) st := hpn ▸ inv.extend hcv
          have post := ih c (path ++ [(c, sp)]) st st1 inv1 (by rw [hpn]; simp) hcv
            (by rw [hpn]; exact List.nodup_append.mpr ⟨hnd, by simp, by
                  intro a ha b hb
                  simp only [List.mem_singleton] at hb
                  subst hb
                  intro e; subst e; exact hcp ha⟩)
            (by
              rw [hpn]
              intro u hu
              rcases List.mem_append.mp hu with h1 | h1
              · exact hV u h1
              · simp only [List.mem_singleton] at h1
                subst h1
                exact hrest u (by simp))
            (by simp only [List.length_append, List.length_singleton]; omega)
            hd
          rw [hpn] at post
          have inv2 := post.push hcp
          obtain ⟨i1, i2, i3, i4⟩ := go_spec G fuel ih v path hnd hV hfuel rest _ st' inv2 hrest' h
          refine ⟨i1, fun u hu => i2 u (post.mono_v u hu),
            fun u hu => i3 u (List.mem_append_left _ (post.mono_r u hu)), ?_⟩
          intro c' hc'
          simp only [List.map_cons, List.mem_cons] at hc'
          rcases hc' with rfl | hc'
          · exact i3 _ (by simp)
          · exact i4 c' hc'

def KidsIn (G : Graph) : Prop := ∀ u c, c ∈ kids G u → c ∈ verts G

theorem dfs_spec (G : Graph) (hk : KidsIn G) : ∀ fuel, DfsSpec G fuel
  | 0 => by
    intro v path st st' _ _ _ hnd hV hf _
    have := List.Nodup.length_le_of_subset hnd (fun u hu => hV u hu)
    simp only [List.length_map] at this
    omega
  | fuel + 1 => by
    intro v path st st' inv hvp hvv hnd hV hf h
    rw [dfs.eq_2] at h
    have inv0 : DfsInv G (path.map (·.1)) { visited := v :: st.visited, result := st.result } := by
      refine ⟨inv.nodup, inv.closed, ?_, ?_⟩
      · intro u hu
        rcases List.mem_cons.mp hu with rfl | hu
        · exact .inr hvp
        · exact inv.vis u hu
      · intro u hu
        have := inv.res u hu
        exact ⟨List.mem_cons_of_mem _ this.1, this.2⟩
    have hkids : ∀ c ∈ ((G.get? v).getD []).map (·.1), c ∈ verts G := fun c hc => hk v c hc
    obtain ⟨i1, i2, i3, i4⟩ := go_spec G fuel (dfs_spec G hk fuel) v path hnd hV (by omega)
      ((G.get? v).getD []) _ st' inv0 hkids h
    exact ⟨i1, fun u hu => i2 u (List.mem_cons_of_mem _ hu), i3, i2 v (by simp), i4⟩

theorem loop_spec (defs : AList (Span × Expr)) (G : Graph) (hk : KidsIn G) :
    ∀ (l : List String) (st st' : DfsState), DfsInv G [] st → (∀ v ∈ l, v ∈ verts G) →
      resolutionOrder.loop defs G ((verts G).length + 1) l st = .ok st' →
      DfsInv G [] st' ∧ (∀ u ∈ st.visited, u ∈ st'.visited) ∧ (∀ v ∈ l, v ∈ st'.visited)
  | [], st, st', inv, _, h => by
    unfold resolutionOrder.loop at h
    cases h
    exact ⟨inv, fun _ h => h, fun _ h => by cases h⟩
  | v :: rest, st, st', inv, hl, h => by
    unfold resolutionOrder.loop at h
    have hl' : ∀ v' ∈ rest, v' ∈ verts G := fun v' hv' => hl v' (List.mem_cons_of_mem _ hv')
    by_cases hv : st.visited.contains v = true
    · simp only [hv, if_true] at h
      obtain ⟨i1, i2, i3⟩ := loop_spec defs G hk rest st st' inv hl' h
      refine ⟨i1, i2, ?_⟩
      intro v' hv'
      rcases List.mem_cons.mp hv' with rfl | hv'
      · exact i2 _ (List.contains_iff_mem.mp hv)
      · exact i3 v' hv'
    · simp only [hv] at h
      have hvv : v ∉ st.visited := fun e => hv (List.contains_iff_mem.mpr e)
      generalize hsp : (((defs.get? v).map (·.1)).getD default) = sp at h
      cases hd : dfs G ((verts G).length + 1) v [(v, sp)] st with
      | error e => rw [hd] at h; cases h
      | ok st1 =>
        rw [hd] at h
        simp only at h
        have inv1 : DfsInv G ([(v, sp)].map (·.1)) st := inv.extend hvv
        have post := dfs_spec G hk _ v [(v, sp)] st st1 inv1 (by simp) hvv (by simp)
          (by intro u hu; simp at hu; subst hu; exact hl _ (by simp))
          (by simp) hd
        simp only [List.map_cons, List.map_nil] at post
        have inv2 : DfsInv G [] { visited := st1.visited, result := st1.result ++ [v] } :=
          DfsPost.push (path := []) post (by simp)
        obtain ⟨i1, i2, i3⟩ := loop_spec defs G hk rest _ st' inv2 hl' h
        refine ⟨i1, fun u hu => i2 u (post.mono_v u hu), ?_⟩
        intro v' hv'
        rcases List.mem_cons.mp hv' with rfl | hv'
        · exact i2 _ post.self
        · exact i3 v' hv'

theorem depGraph_get (D : AList (Span × Expr)) (n : String) :
    (depGraph D).get? n = (D.get? n).map fun v => (refs v.2).filter fun p => D.contains p.1 := by
  unfold depGraph AList.get?
  have := find?_map_key (fun x : String × Span × Expr => (x.1, (refs x.2.2).filter fun p => D.contains p.1))
    (fun _ => rfl) n D
  rw [this]
  simp [Option.map_map, Function.comp_def]

theorem verts_depGraph (D : AList (Span × Expr)) : verts (depGraph D) = D.map (·.1) := by
  unfold verts depGraph
  simp [List.map_map, Function.comp_def]

theorem kidsIn_depGraph (D : AList (Span × Expr)) : KidsIn (depGraph D) := by
  intro u c hc
  unfold kids at hc
  rw [depGraph_get] at hc
  rw [verts_depGraph]
  cases hg : D.get? u with
  | none => simp [hg] at hc
  | some v =>
    simp only [hg, Option.map_some, Option.getD_some, List.mem_map, List.mem_filter] at hc
    obtain ⟨p, ⟨_, hcont⟩, rfl⟩ := hc
    exact (contains_iff_key D p.1).mp hcont

/-- **What a successful `resolutionOrder` returns**: the vertices that depend on something, out of a
list `R` that contains every vertex exactly once, each after all its children. -/
theorem resolutionOrder_ok (D : AList (Span × Expr)) (order : List String) (h : resolutionOrder D = .ok order) :
    ∃ R : List String, order = R.filter (fun v => !(((depGraph D).get? v).getD []).isEmpty) ∧ R.Nodup ∧
      Closed (depGraph D) R ∧ ∀ v ∈ verts (depGraph D), v ∈ R := by
  unfold resolutionOrder at h
  by_cases he : D.isEmpty = true
  · simp only [he, if_true] at h
    cases h
    have : D = [] := by simpa using he
    subst this
    exact ⟨[], rfl, List.nodup_nil, (fun pre n post e => by simp at e), (fun v hv => by simp [verts, depGraph] at hv)⟩
  · have he' : D.isEmpty = false := by simpa using he
    simp only [he', Bool.false_eq_true, if_false] at h
    generalize hl : (roots (depGraph D) ++ List.filter (fun v => !(roots (depGraph D)).contains v)
      (List.map (fun x => x.1) (depGraph D))) = l at h
    have hlen : (depGraph D).length = (verts (depGraph D)).length := by simp [verts]
    rw [hlen] at h
    cases hloop : resolutionOrder.loop D (depGraph D) ((verts (depGraph D)).length + 1) l ⟨[], []⟩ with
    | error e => rw [hloop] at h; cases h
    | ok st =>
      rw [hloop] at h
      simp only [Except.ok.injEq] at h
      have inv0 : DfsInv (depGraph D) [] ⟨[], []⟩ :=
        ⟨List.nodup_nil, (fun pre n post e => by simp at e), (fun u hu => by cases hu), (fun u hu => by cases hu)⟩
      have hlV : ∀ v ∈ l, v ∈ verts (depGraph D) := by
        intro v hv
        rw [← hl] at hv
        rcases List.mem_append.mp hv with h1 | h1
        · unfold roots at h1
          exact (List.mem_filter.mp h1).1
        · exact (List.mem_filter.mp h1).1
      obtain ⟨i1, _, i3⟩ := loop_spec D (depGraph D) (kidsIn_depGraph D) l _ st inv0 hlV hloop
      refine ⟨st.result, h.symm, i1.nodup, i1.closed, ?_⟩
      intro v hv
      have hvl : v ∈ l := by
        rw [← hl]
        by_cases hr : (roots (depGraph D)).contains v = true
        · exact List.mem_append_left _ (List.contains_iff_mem.mp hr)
        · exact List.mem_append_right _ (List.mem_filter.mpr ⟨hv, by simpa using hr⟩)
      rcases i1.vis v (i3 v hvl) with h1 | h1
      · exact h1
      · cases h1

end Complgen.Check
