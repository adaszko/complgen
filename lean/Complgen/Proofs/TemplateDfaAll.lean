/-
**The emitted bash script interprets the automaton — at ARBITRARY states.**

Extends `Proofs/TemplateDfa.lean` (the literal part).  `S` is a script whose main tables are the
tables the emitter writes for the automaton `a` with the command numbering `cmds` and the within-word
numbering `subId` (`ScriptOf S a cmds subId`; `Tables.ofDfa d out` is the instance `scriptOf_ofDfa`:
`a := d.main`, `cmds := commands d`, `subId := subIdOf (subOrder d.main)`).  The within-word matcher is
kept abstract: the statements mention `subMatches (S.sub j) S.out w` and `subComplete (S.sub j) S.out p`
(for `S = ofDfa d out`, `S.sub j = ofAuto s (commands d) fun _ => none` for `s = d.subs[k]`,
`j = subIdOf (subOrder d.main) k`: `Tables.ofDfa_sub`).

The template reads a complete word by priority (`WordStep`, `readWord_cases`), and its walk over the
earlier words is a run of the automaton with the last-word heuristic (`Run`, `walk_sound`); with one
reading per word (`StepDetAt`) both are iffs (`readWord_spec`, `walk_spec`).  The candidates are those of
the least level that has any (`offer_spec`), and `ofDfa_complete_spec` puts it together.  The order
inside a class when several readings exist: `subLookup_eq_first`, `starLookup_eq_first` (first
transition in iteration order); for literals it is the first id of the literal table
(`TemplateDfa.litLookup`; `TemplateDfa.cexWord_read` shows a case), for commands the smallest command
number (the row is a `BTreeMap`) — those two orders are NOT characterised here, only "some reading of
the class".
-/
import Complgen.Proofs.TemplateDfa
namespace Complgen.TemplateDfaAll
open BashRt Complgen.Tables Complgen.TemplateDfa

def ScriptOf (S : Script) (a : Auto) (cmds : List String) (subId : Nat → Option Nat) : Prop :=
  ∃ lits, S.main = ofAutoWith lits a cmds subId ∧
    (∀ q txt d lvl t, HasEdge a q (.lit txt d lvl) t → (txt, d) ∈ lits) ∧
    (∀ q c lvl t, HasEdge a q (.cmd c lvl) t → c ∈ cmds) ∧
    (∀ q k lvl t, HasEdge a q (.sub k lvl) t → ∃ j, subId k = some j)

theorem ScriptOf.mainOf {S : Script} {a : Auto} {cmds : List String} {subId : Nat → Option Nat}
    (h : ScriptOf S a cmds subId) : MainOf S a := by
  obtain ⟨lits, hS, hl, _, _⟩ := h
  exact ⟨lits, cmds, subId, hS, hl⟩

theorem scriptOf_ofDfa (d : Dfa) (out : Nat → List String) :
    ScriptOf (ofDfa d out) d.main (commands d) (subIdOf (subOrder d.main)) :=
  ⟨sortedLits d.main, rfl, fun _ _ _ _ _ he => sortedLits_cover_edge he,
    fun _ _ _ _ he => commands_cover_main he, fun _ _ _ _ he => subOrder_cover he⟩

section facts
variable {S : Script} {a : Auto} {cmds : List String} {subId : Nat → Option Nat}

theorem cmd_row_some (h : ScriptOf S a cmds subId) {q : Nat} {c : String} {lvl t : Nat}
    (he : HasEdge a q (.cmd c lvl) t) :
    ∃ row t', rowOf S.main.cmdTrans q = some row ∧ (cmds.idxOf c, t') ∈ row := by
  obtain ⟨lits, hS, _, hc, _⟩ := h
  exact E2_cmd_row_some hS (hc _ _ _ _ he) he

theorem cmd_row_back (h : ScriptOf S a cmds subId) {q : Nat} {row : List (Nat × Nat)} {k t : Nat}
    (hr : rowOf S.main.cmdTrans q = some row) (hm : (k, t) ∈ row) :
    ∃ c lvl, HasEdge a q (.cmd c lvl) t ∧ k = cmds.idxOf c := by
  obtain ⟨lits, hS, _, _, _⟩ := h
  obtain ⟨c, lvl, he, hk⟩ := E2_cmd_row_backward hS hr hm
  exact ⟨c, lvl, he, (cmdId_eq_some.mp hk).2⟩

theorem mem_star_iff (h : ScriptOf S a cmds subId) {q t : Nat} :
    (q, t) ∈ S.main.star ↔ HasEdge a q .star t := by
  obtain ⟨lits, hS, _, _, _⟩ := h
  exact E2_star hS

theorem mem_subLevels_iff (h : ScriptOf S a cmds subId) {q lvl j : Nat} :
    j ∈ idsAt S.main.subLevels lvl q ↔ ∃ k t, HasEdge a q (.sub k lvl) t ∧ subId k = some j := by
  obtain ⟨lits, hS, _, _, _⟩ := h
  exact ⟨E2_sub_level_backward hS, fun ⟨_, _, he, hk⟩ => sub_level hS he hk⟩

theorem mem_cmdLevels_iff (h : ScriptOf S a cmds subId) {q lvl k : Nat} :
    k ∈ idsAt S.main.cmdLevels lvl q ↔ ∃ c t, HasEdge a q (.cmd c lvl) t ∧ k = cmds.idxOf c := by
  obtain ⟨lits, hS, _, hc, _⟩ := h
  constructor
  · intro hm
    obtain ⟨c, t, he, hk⟩ := E2_cmd_level_backward hS hm
    exact ⟨c, t, he, (cmdId_eq_some.mp hk).2⟩
  · rintro ⟨c, t, he, rfl⟩
    exact cmd_level hS he (cmdId_eq_some.mpr ⟨hc q c lvl t he, rfl⟩)

end facts

section defs
variable (S : Script) (a : Auto) (cmds : List String) (subId : Nat → Option Nat)

def LitRead (q : Nat) (w : String) (t : Nat) : Prop := ∃ dsc lvl, HasEdge a q (.lit w dsc lvl) t

def SubRead (q : Nat) (w : String) (t : Nat) : Prop :=
  ∃ k lvl j, HasEdge a q (.sub k lvl) t ∧ subId k = some j ∧ subMatches (S.sub j) S.out w = true

/-- the number of a command is its position in `cmds` -/
def CmdRead (q : Nat) (w : String) (t : Nat) : Prop :=
  ∃ c lvl, HasEdge a q (.cmd c lvl) t ∧ w ∈ S.out (cmds.idxOf c)

def StarRead (q : Nat) (t : Nat) : Prop := HasEdge a q .star t

/-- **One step of the template on a complete word**, by priority: literal, else within-word, else
command, else any word.  (Named `WordStep`: `BashRt.Step` is the step of the within-word matcher.)
Inside one class the relation does not choose: see `StepDetAt`. -/
inductive WordStep (q : Nat) (w : String) (t : Nat) : Prop
  | lit : LitRead a q w t → WordStep q w t
  | sub : (∀ t', ¬ LitRead a q w t') → SubRead S a subId q w t → WordStep q w t
  | cmd : (∀ t', ¬ LitRead a q w t') → (∀ t', ¬ SubRead S a subId q w t') → CmdRead S a cmds q w t →
      WordStep q w t
  | star : (∀ t', ¬ LitRead a q w t') → (∀ t', ¬ SubRead S a subId q w t') →
      (∀ t', ¬ CmdRead S a cmds q w t') → StarRead a q t → WordStep q w t

/-- the flag of the last-word heuristic -/
def CmdExpected (q : Nat) : Prop :=
  ∃ c lvl t, HasEdge a q (.cmd c lvl) t ∧ ∃ o ∈ S.out (cmds.idxOf c), o ≠ ""

def StepDetAt (q : Nat) (w : String) : Prop :=
  ∀ t1 t2, WordStep S a cmds subId q w t1 → WordStep S a cmds subId q w t2 → t1 = t2

end defs

section readWord
variable {S : Script} {a : Auto} {cmds : List String} {subId : Nat → Option Nat}

theorem stepDetAt_of {q : Nat} {w : String} (hl : WordDetAt a q)
    (hs : ∀ t1 t2, SubRead S a subId q w t1 → SubRead S a subId q w t2 → t1 = t2)
    (hc : ∀ t1 t2, CmdRead S a cmds q w t1 → CmdRead S a cmds q w t2 → t1 = t2)
    (hst : ∀ t1 t2, HasEdge a q .star t1 → HasEdge a q .star t2 → t1 = t2) :
    StepDetAt S a cmds subId q w := by
  intro t1 t2 h1 h2
  cases h1 with
  | lit r1 =>
    cases h2 with
    | lit r2 =>
      obtain ⟨d1, l1, e1⟩ := r1
      obtain ⟨d2, l2, e2⟩ := r2
      exact hl w d1 l1 t1 d2 l2 t2 e1 e2
    | sub n _ => exact absurd r1 (n t1)
    | cmd n _ _ => exact absurd r1 (n t1)
    | star n _ _ _ => exact absurd r1 (n t1)
  | sub n1 r1 =>
    cases h2 with
    | lit r2 => exact absurd r2 (n1 t2)
    | sub _ r2 => exact hs t1 t2 r1 r2
    | cmd _ n _ => exact absurd r1 (n t1)
    | star _ n _ _ => exact absurd r1 (n t1)
  | cmd n1 n1' r1 =>
    cases h2 with
    | lit r2 => exact absurd r2 (n1 t2)
    | sub _ r2 => exact absurd r2 (n1' t2)
    | cmd _ _ r2 => exact hc t1 t2 r1 r2
    | star _ _ n _ => exact absurd r1 (n t1)
  | star n1 n1' n1'' r1 =>
    cases h2 with
    | lit r2 => exact absurd r2 (n1 t2)
    | sub _ r2 => exact absurd r2 (n1' t2)
    | cmd _ _ r2 => exact absurd r2 (n1'' t2)
    | star _ _ _ r2 => exact hst t1 t2 r1 r2

theorem subRead_det_of {q : Nat} {w : String} (hk : SubKDetAt a q)
    (hone : ∀ k l t j k' l' t' j', HasEdge a q (.sub k l) t → HasEdge a q (.sub k' l') t' →
      subId k = some j → subId k' = some j' → subMatches (S.sub j) S.out w = true →
      subMatches (S.sub j') S.out w = true → k = k') :
    ∀ t1 t2, SubRead S a subId q w t1 → SubRead S a subId q w t2 → t1 = t2 := by
  rintro t1 t2 ⟨k, l, j, he, hj, hm⟩ ⟨k', l', j', he', hj', hm'⟩
  have := hone k l t1 j k' l' t2 j' he he' hj hj' hm hm'
  subst this
  exact hk k l t1 l' t2 he he'

theorem cmdRead_det_of {q : Nat} {w : String} (hk : CmdDetAt a q)
    (hone : ∀ c l t c' l' t', HasEdge a q (.cmd c l) t → HasEdge a q (.cmd c' l') t' →
      w ∈ S.out (cmds.idxOf c) → w ∈ S.out (cmds.idxOf c') → c = c') :
    ∀ t1 t2, CmdRead S a cmds q w t1 → CmdRead S a cmds q w t2 → t1 = t2 := by
  rintro t1 t2 ⟨c, l, he, hm⟩ ⟨c', l', he', hm'⟩
  have := hone c l t1 c' l' t2 he he' hm hm'
  subst this
  exact hk c l t1 l' t2 he he'

theorem subLookup_sound (h : ScriptOf S a cmds subId) {q : Nat} {w : String} {t : Nat}
    (hl : subLookup S q w = some t) : SubRead S a subId q w t := by
  unfold subLookup at hl
  cases hr : rowOf S.main.subTrans q with
  | none => simp [hr] at hl
  | some row =>
    simp only [hr] at hl
    obtain ⟨⟨j, t'⟩, hm, hf⟩ := List.exists_of_findSome?_eq_some hl
    simp only at hf
    by_cases hmatch : subMatches (S.sub j) S.out w = true
    · simp only [hmatch, if_true, Option.some.injEq] at hf
      subst hf
      obtain ⟨lits, hS, _, _, _⟩ := h
      obtain ⟨k, lvl, he, hk⟩ := E2_sub_row_backward hS hr hm
      exact ⟨k, lvl, j, he, hk, hmatch⟩
    · simp [hmatch] at hf

theorem subLookup_none (h : ScriptOf S a cmds subId) {q : Nat} {w : String}
    (hf : subLookup S q w = none) (t : Nat) : ¬ SubRead S a subId q w t := by
  rintro ⟨k, lvl, j, he, hk, hmatch⟩
  obtain ⟨lits, hS, _, _, _⟩ := h
  obtain ⟨row, hr, hm⟩ := E2_sub_row_mem hS he hk
  unfold subLookup at hf
  simp only [hr] at hf
  rw [List.findSome?_eq_none_iff] at hf
  have := hf (j, t) hm
  simp [hmatch] at this

theorem findSome?_filterMap_bind {α β γ} (f : α → Option β) (g : β → Option γ) : ∀ l : List α,
    (l.filterMap f).findSome? g = l.findSome? fun x => (f x).bind g
  | [] => rfl
  | x :: xs => by
    rw [List.filterMap_cons, List.findSome?_cons]
    cases hf : f x with
    | none =>
      simp only [Option.bind_none]
      exact findSome?_filterMap_bind f g xs
    | some y =>
      simp only [Option.bind_some, List.findSome?_cons]
      cases g y with
      | none => exact findSome?_filterMap_bind f g xs
      | some _ => rfl

/-- **the order inside the within-word class** (no determinism assumed): the template follows the FIRST
within-word transition out of `q`, in the iteration order of the transitions (`Tables.edges a`), whose
function matches the word — the row of `subword_transitions` lists the transitions out of `q` in that
order. -/
theorem subLookup_eq_first (h : ScriptOf S a cmds subId) (q : Nat) (w : String) :
    subLookup S q w = (edges a).findSome? fun e => (subPair subId q e).bind fun p =>
      if subMatches (S.sub p.1) S.out w then some p.2 else none := by
  obtain ⟨lits, hS, _, _, _⟩ := h
  unfold subLookup
  rw [subTrans_row hS, ← findSome?_filterMap_bind]
  by_cases hq : q ∈ normSet ((edges a).map (·.1))
  · cases hl : (edges a).filterMap (subPair subId q) with
    | nil => simp [hq]
    | cons x xs =>
      simp only [hq, List.isEmpty_cons, and_self, if_true]
  · have : (edges a).filterMap (subPair subId q) = [] := by
      rw [List.filterMap_eq_nil_iff]
      intro e he
      have hne : e.1 ≠ q := by
        rintro rfl
        exact hq ((mem_states a).mpr ⟨e.2.1, e.2.2, he⟩)
      simp [subPair, hne]
    simp [hq, this]

theorem cmdLookup_sound (h : ScriptOf S a cmds subId) {q : Nat} {w : String} {t : Nat}
    (hl : cmdLookup S q w = some t) : CmdRead S a cmds q w t := by
  unfold cmdLookup at hl
  cases hr : rowOf S.main.cmdTrans q with
  | none => simp [hr] at hl
  | some row =>
    simp only [hr, Option.getD_some] at hl
    obtain ⟨⟨k, t'⟩, hm, hf⟩ := List.exists_of_findSome?_eq_some hl
    have hf' : w ∈ S.out k ∧ t' = t := by simpa using hf
    obtain ⟨hc, rfl⟩ := hf'
    obtain ⟨c, lvl, he, rfl⟩ := cmd_row_back h hr hm
    exact ⟨c, lvl, he, hc⟩

theorem cmdLookup_none (h : ScriptOf S a cmds subId) {q : Nat} {w : String}
    (hf : cmdLookup S q w = none) (t : Nat) : ¬ CmdRead S a cmds q w t := by
  rintro ⟨c, lvl, he, hmem⟩
  obtain ⟨row, t0, hr, hm⟩ := cmd_row_some h he
  unfold cmdLookup at hf
  simp only [hr, Option.getD_some] at hf
  rw [List.findSome?_eq_none_iff] at hf
  have := hf (cmds.idxOf c, t0) hm
  simp [hmem] at this

theorem starLookup_sound (h : ScriptOf S a cmds subId) {q : Nat} {p : Nat × Nat}
    (hf : S.main.star.find? (·.1 == q) = some p) : StarRead a q p.2 :=
  (mem_star_iff h).mp (mem_of_find?_key hf)

theorem starLookup_none (h : ScriptOf S a cmds subId) {q : Nat}
    (hf : S.main.star.find? (·.1 == q) = none) (t : Nat) : ¬ StarRead a q t := by
  intro hs
  rw [List.find?_eq_none] at hf
  have := hf (q, t) ((mem_star_iff h).mpr hs)
  simp at this

/-- **the order inside the any-word class**: the FIRST any-word transition out of `q` in the iteration
order of the transitions -/
theorem starLookup_eq_first (h : ScriptOf S a cmds subId) (q : Nat) :
    S.main.star.find? (·.1 == q) = ((edges a).filterMap starPair).find? (·.1 == q) := by
  obtain ⟨lits, hS, _, _, _⟩ := h
  rw [hS]
  rfl

theorem seenAt_iff (h : ScriptOf S a cmds subId) {q : Nat} :
    seenAt S q = true ↔ CmdExpected S a cmds q := by
  unfold seenAt CmdExpected
  rw [List.any_eq_true]
  constructor
  · rintro ⟨⟨k, t⟩, hm, hf⟩
    cases hr : rowOf S.main.cmdTrans q with
    | none => simp [hr] at hm
    | some row =>
      simp only [hr, Option.getD_some] at hm
      obtain ⟨c, lvl, he, rfl⟩ := cmd_row_back h hr hm
      refine ⟨c, lvl, t, he, ?_⟩
      simp only [Bool.not_eq_true', List.isEmpty_eq_false_iff_exists_mem, List.mem_filter] at hf
      obtain ⟨o, ho, hne⟩ := hf
      exact ⟨o, ho, by simpa using hne⟩
  · rintro ⟨c, lvl, t, he, o, ho, hne⟩
    obtain ⟨row, t0, hr, hm⟩ := cmd_row_some h he
    refine ⟨(cmds.idxOf c, t0), by simp [hr, hm], ?_⟩
    simp only [Bool.not_eq_true', List.isEmpty_eq_false_iff_exists_mem, List.mem_filter]
    exact ⟨o, ho, by simpa using hne⟩

/-- Everything `readWord` does, no determinism assumed: the class of the reading is fixed by the priority,
the target is that of SOME reading of that class. -/
theorem readWord_cases (h : ScriptOf S a cmds subId) (q : Nat) (w : String) :
    (∃ t, LitRead a q w t ∧ readWord S q w = (some t, false)) ∨
    ((∀ t, ¬ LitRead a q w t) ∧
      ((∃ t, SubRead S a subId q w t ∧ readWord S q w = (some t, false)) ∨
       ((∀ t, ¬ SubRead S a subId q w t) ∧
        ((∃ t, CmdRead S a cmds q w t ∧ readWord S q w = (some t, seenAt S q)) ∨
         ((∀ t, ¬ CmdRead S a cmds q w t) ∧
          ((∃ t, StarRead a q t ∧ readWord S q w = (some t, seenAt S q)) ∨
           ((∀ t, ¬ StarRead a q t) ∧ readWord S q w = (none, seenAt S q)))))))) := by
  rw [readWord_eq]
  cases hl : litLookup S.main q w with
  | some t =>
    obtain ⟨d, l, he⟩ := litLookup_sound h.mainOf hl
    exact Or.inl ⟨t, ⟨d, l, he⟩, rfl⟩
  | none =>
    have nl : ∀ t, ¬ LitRead a q w t := fun t ⟨_, _, he⟩ => by
      obtain ⟨t', ht'⟩ := litLookup_total h.mainOf he
      rw [hl] at ht'
      cases ht'
    refine Or.inr ⟨nl, ?_⟩
    cases hs : subLookup S q w with
    | some t => exact Or.inl ⟨t, subLookup_sound h hs, rfl⟩
    | none =>
      refine Or.inr ⟨subLookup_none h hs, ?_⟩
      cases hc : cmdLookup S q w with
      | some t => exact Or.inl ⟨t, cmdLookup_sound h hc, rfl⟩
      | none =>
        refine Or.inr ⟨cmdLookup_none h hc, ?_⟩
        cases hst : S.main.star.find? (·.1 == q) with
        | some p => exact Or.inl ⟨p.2, starLookup_sound h hst, rfl⟩
        | none => exact Or.inr ⟨starLookup_none h hst, rfl⟩

theorem readWord_sound (h : ScriptOf S a cmds subId) {q : Nat} {w : String} {t : Nat}
    (hr : (readWord S q w).1 = some t) : WordStep S a cmds subId q w t := by
  rcases readWord_cases h q w with ⟨t', r, e⟩ | ⟨nl, ⟨t', r, e⟩ | ⟨ns, ⟨t', r, e⟩ | ⟨nc, ⟨t', r, e⟩ | ⟨_, e⟩⟩⟩⟩ <;>
    rw [e] at hr <;> simp only [Option.some.injEq] at hr
  · subst hr; exact .lit r
  · subst hr; exact .sub nl r
  · subst hr; exact .cmd nl ns r
  · subst hr; exact .star nl ns nc r
  · cases hr

theorem readWord_total (h : ScriptOf S a cmds subId) {q : Nat} {w : String} {t : Nat}
    (hs : WordStep S a cmds subId q w t) : ∃ t', (readWord S q w).1 = some t' := by
  rcases readWord_cases h q w with ⟨t', _, e⟩ | ⟨nl, ⟨t', _, e⟩ | ⟨ns, ⟨t', _, e⟩ | ⟨nc, ⟨t', _, e⟩ | ⟨nst, _⟩⟩⟩⟩
  · exact ⟨t', by rw [e]⟩
  · exact ⟨t', by rw [e]⟩
  · exact ⟨t', by rw [e]⟩
  · exact ⟨t', by rw [e]⟩
  · cases hs with
    | lit r => exact absurd r (nl t)
    | sub _ r => exact absurd r (ns t)
    | cmd _ _ r => exact absurd r (nc t)
    | star _ _ _ r => exact absurd r (nst t)

theorem readWord_none_iff (h : ScriptOf S a cmds subId) (q : Nat) (w : String) :
    (readWord S q w).1 = none ↔ ∀ t, ¬ WordStep S a cmds subId q w t := by
  constructor
  · intro hn t hs
    obtain ⟨t', ht'⟩ := readWord_total h hs
    rw [hn] at ht'
    cases ht'
  · intro hno
    cases hr : (readWord S q w).1 with
    | none => rfl
    | some t => exact absurd (readWord_sound h hr) (hno t)

theorem readWord_spec (h : ScriptOf S a cmds subId) {q : Nat} {w : String}
    (hdet : StepDetAt S a cmds subId q w) (t : Nat) :
    (readWord S q w).1 = some t ↔ WordStep S a cmds subId q w t := by
  constructor
  · exact readWord_sound h
  · intro hs
    obtain ⟨t', ht'⟩ := readWord_total h hs
    rw [ht', hdet t t' hs (readWord_sound h ht')]

/-- The flag of the last-word heuristic is set whether or not the word was read as a command output or as
any word. -/
theorem readWord_flag (h : ScriptOf S a cmds subId) (q : Nat) (w : String) :
    (readWord S q w).2 = true ↔
      (∀ t, ¬ LitRead a q w t) ∧ (∀ t, ¬ SubRead S a subId q w t) ∧ CmdExpected S a cmds q := by
  rw [← seenAt_iff h]
  rcases readWord_cases h q w with ⟨t', r, e⟩ | ⟨nl, ⟨t', r, e⟩ | ⟨ns, ⟨t', r, e⟩ | ⟨nc, ⟨t', r, e⟩ | ⟨_, e⟩⟩⟩⟩ <;>
    rw [e]
  · simp only [Bool.false_eq_true, false_iff]
    exact fun hh => hh.1 t' r
  · simp only [Bool.false_eq_true, false_iff]
    exact fun hh => hh.2.1 t' r
  · exact ⟨fun hh => ⟨nl, ns, hh⟩, fun hh => hh.2.2⟩
  · exact ⟨fun hh => ⟨nl, ns, hh⟩, fun hh => hh.2.2⟩
  · exact ⟨fun hh => ⟨nl, ns, hh⟩, fun hh => hh.2.2⟩

theorem readWord_none_flag (h : ScriptOf S a cmds subId) {q : Nat} {w : String}
    (hn : (readWord S q w).1 = none) : (readWord S q w).2 = true ↔ CmdExpected S a cmds q := by
  rw [readWord_flag h]
  have hno := (readWord_none_iff h q w).mp hn
  exact ⟨fun hh => hh.2.2, fun hh => ⟨fun t r => hno t (.lit r),
    fun t r => hno t (.sub (fun t' r' => hno t' (.lit r')) r), hh⟩⟩

end readWord

section defs2
variable (S : Script) (a : Auto) (cmds : List String) (subId : Nat → Option Nat)

/-- **The run of the automaton on the earlier words, as the template performs it**: steps by priority;
a word without a step ends the run — in `unmatched` (return code 1), except that when it is the LAST word
and a command expected at that state prints something (`CmdExpected`), the run stays at that state (the
last-word heuristic: the word is taken for a value of the command that the command no longer prints). -/
inductive Run : Nat → List String → Walk → Prop
  | nil (q : Nat) : Run q [] (.state q)
  | step {q q' : Nat} {w : String} {ws : List String} {r : Walk} :
      WordStep S a cmds subId q w q' → Run q' ws r → Run q (w :: ws) r
  | stay {q : Nat} {w : String} :
      (∀ t, ¬ WordStep S a cmds subId q w t) → CmdExpected S a cmds q → Run q [w] (.state q)
  | fail {q : Nat} {w : String} {ws : List String} :
      (∀ t, ¬ WordStep S a cmds subId q w t) → ¬ (CmdExpected S a cmds q ∧ ws = []) →
      Run q (w :: ws) .unmatched

inductive Reach : Nat → Nat → Prop
  | refl (q : Nat) : Reach q q
  | step {q q' r : Nat} {w : String} : WordStep S a cmds subId q w q' → Reach q' r → Reach q r

end defs2

section walk
variable {S : Script} {a : Auto} {cmds : List String} {subId : Nat → Option Nat}

/-- The walk of the template is a run of the automaton (no determinism assumed: where a word has
several readings of the highest class, the walk follows one of them). -/
theorem walk_sound (h : ScriptOf S a cmds subId) : ∀ (ws : List String) (q0 : Nat),
    Run S a cmds subId q0 ws (walk S q0 ws)
  | [], q0 => .nil q0
  | w :: ws, q0 => by
    cases hr : (readWord S q0 w).1 with
    | some q' =>
      rw [walk_cons_some hr]
      exact .step (readWord_sound h hr) (walk_sound h ws q')
    | none =>
      have hno := (readWord_none_iff h q0 w).mp hr
      have hflag := readWord_none_flag h hr
      rw [walk_cons_none hr]
      cases hb : (readWord S q0 w).2 with
      | false => exact .fail hno fun hh => by rw [hflag.mpr hh.1] at hb; cases hb
      | true =>
        cases ws with
        | nil => exact .stay hno (hflag.mp hb)
        | cons w' ws' => exact .fail hno fun hh => by cases hh.2

theorem walk_complete (h : ScriptOf S a cmds subId) {q0 : Nat} {ws : List String} {r : Walk}
    (hrun : Run S a cmds subId q0 ws r)
    (hdet : ∀ q, Reach S a cmds subId q0 q → ∀ w, StepDetAt S a cmds subId q w) :
    walk S q0 ws = r := by
  induction hrun with
  | nil q => rfl
  | @step q q' w ws r hs _ ih =>
    rw [walk_cons_some ((readWord_spec h (hdet q (.refl q) w) q').mpr hs)]
    exact ih fun q'' hq'' => hdet q'' (.step hs hq'')
  | @stay q w hno hexp =>
    have hn := (readWord_none_iff h q w).mpr hno
    rw [walk_cons_none hn, (readWord_none_flag h hn).mpr hexp]
    rfl
  | @fail q w ws hno hexp =>
    have hn := (readWord_none_iff h q w).mpr hno
    rw [walk_cons_none hn]
    cases hb : (readWord S q w).2 with
    | false => rfl
    | true =>
      cases ws with
      | nil => exact absurd ⟨(readWord_none_flag h hn).mp hb, rfl⟩ hexp
      | cons _ _ => rfl

theorem walk_spec (h : ScriptOf S a cmds subId) {q0 : Nat}
    (hdet : ∀ q, Reach S a cmds subId q0 q → ∀ w, StepDetAt S a cmds subId q w)
    (ws : List String) (r : Walk) : walk S q0 ws = r ↔ Run S a cmds subId q0 ws r :=
  ⟨fun hw => hw ▸ walk_sound h ws q0, fun hrun => walk_complete h hrun hdet⟩

end walk

/-! ### the overwriting `readarray` makes no difference (any tables)

`offer` is the output of the first level that has any, computed from that level alone
(`offer_eq_firstLevel`, `Proofs/Offer.lean`): the loop passes to the next level only when NOTHING of the
current level extends the typed prefix — in particular no line of the last command, whose output
`readarray -t candidates` leaves in the array; so what the array holds when a level starts is filtered
out again.  The loop in which the literals just accumulate has the same value. -/

/-- the loop of the template WITHOUT the overwriting `readarray`: the literal candidates just accumulate -/
def offerAcc (S : Script) (q : Nat) (prefix_ : String) : List String :=
  let T := S.main
  let p := prefix_.toList
  let rec levels : Nat → Nat → List String → List String
    | 0, _, _ => []
    | fuel + 1, lvl, cands =>
      let cands := cands ++ (idsAt T.litLevels lvl q).map fun id => (T.literals[id]?.getD "") ++ " "
      let m1 := cands.filter fun c => isPrefix p c.toList
      let m2 := (idsAt T.subLevels lvl q).flatMap fun id => subComplete (S.sub id) S.out prefix_
      let m3 := (idsAt T.cmdLevels lvl q).flatMap fun cmd => (S.out cmd).filter fun o => isPrefix p o.toList
      if !(m1 ++ m2 ++ m3).isEmpty then m1 ++ m2 ++ m3
      else if lvl ≥ T.maxLevel then [] else levels fuel (lvl + 1) cands
  levels (T.maxLevel + 1) 0 []

/-- The overwritten array makes NO difference: the loop with `readarray -t candidates`
overwriting the accumulated literals (`offer`, what bash does) and the loop where the literals just
accumulate (`offerAcc`) return the same list, for all tables, states, prefixes and command outputs. -/
theorem offerAcc_eq_offer (S : Script) (q : Nat) (p : String) : offerAcc S q p = offer S q p := by
  rw [offer_eq_firstLevel]
  refine levels_eq_firstLevel (L := offerAcc.levels S q p S.main p.toList)
    (f := fun c => isPrefix p.toList c.toList)
    (fun lvl c => c ++ (idsAt S.main.litLevels lvl q).map fun id => (S.main.literals[id]?.getD "") ++ " ")
    (fun _ _ => rfl) (fun fuel lvl c hc => ?_) (fun lvl c hc hnil => ?_) _ 0 [] (by simp)
  · rw [offerAcc.levels]
    simp only [filter_append_of_all_false hc]
    rfl
  · unfold levelOut at hnil
    rw [List.append_eq_nil_iff, List.append_eq_nil_iff] at hnil
    exact all_false_append hc hnil.1.1

section defs3
variable (S : Script) (a : Auto) (cmds : List String) (subId : Nat → Option Nat)

def LevelCand (q : Nat) (p : String) (lvl : Nat) (c : String) : Prop :=
  (∃ txt d t, HasEdge a q (.lit txt d lvl) t ∧ c = txt ++ " " ∧ isPrefix p.toList c.toList = true) ∨
  (∃ k t j, HasEdge a q (.sub k lvl) t ∧ subId k = some j ∧ c ∈ subComplete (S.sub j) S.out p) ∨
  (∃ cm t, HasEdge a q (.cmd cm lvl) t ∧ c ∈ S.out (cmds.idxOf cm) ∧ isPrefix p.toList c.toList = true)

def Offered (q : Nat) (p : String) (c : String) : Prop :=
  ∃ L, LevelCand S a cmds subId q p L c ∧ ∀ l c', LevelCand S a cmds subId q p l c' → L ≤ l

end defs3

section offer
variable {S : Script} {a : Auto} {cmds : List String} {subId : Nat → Option Nat}

theorem mem_levelOut (h : ScriptOf S a cmds subId) {q lvl : Nat} {p c : String} :
    c ∈ levelOut S q p lvl ↔ LevelCand S a cmds subId q p lvl c := by
  unfold levelOut LevelCand
  rw [List.mem_append, List.mem_append, List.mem_filter, mem_levelCands h.mainOf, List.mem_flatMap,
    List.mem_flatMap, or_assoc]
  constructor
  · rintro (⟨⟨txt, d, t, he, rfl⟩, hp⟩ | ⟨j, hj, hc⟩ | ⟨k, hk, hc⟩)
    · exact Or.inl ⟨txt, d, t, he, rfl, hp⟩
    · obtain ⟨k, t, he, hkj⟩ := (mem_subLevels_iff h).mp hj
      exact Or.inr (Or.inl ⟨k, t, j, he, hkj, hc⟩)
    · obtain ⟨cm, t, he, rfl⟩ := (mem_cmdLevels_iff h).mp hk
      obtain ⟨hc1, hc2⟩ := List.mem_filter.mp hc
      exact Or.inr (Or.inr ⟨cm, t, he, hc1, hc2⟩)
  · rintro (⟨txt, d, t, he, rfl, hp⟩ | ⟨k, t, j, he, hkj, hc⟩ | ⟨cm, t, he, hc1, hc2⟩)
    · exact Or.inl ⟨⟨txt, d, t, he, rfl⟩, hp⟩
    · exact Or.inr (Or.inl ⟨j, (mem_subLevels_iff h).mpr ⟨k, t, he, hkj⟩, hc⟩)
    · exact Or.inr (Or.inr ⟨_, (mem_cmdLevels_iff h).mpr ⟨cm, t, he, rfl⟩,
        List.mem_filter.mpr ⟨hc1, hc2⟩⟩)

theorem levelCand_le_max (h : ScriptOf S a cmds subId) {q lvl : Nat} {p c : String}
    (hc : LevelCand S a cmds subId q p lvl c) : lvl ≤ S.main.maxLevel := by
  obtain ⟨lits, hS, _, _, _⟩ := h
  rcases hc with ⟨_, _, _, he, _⟩ | ⟨_, _, _, he, _⟩ | ⟨_, _, he, _⟩
  · exact E3_level_le hS he rfl
  · exact E3_level_le hS he rfl
  · exact E3_level_le hS he rfl

/-- At an ARBITRARY state `q`, the candidates offered for the typed prefix `p` are — as a set — the
`LevelCand`s of the least level that has any.  No determinism and no hypothesis on commands at lower
levels is needed (what `readarray` leaves in the array never extends `p`). -/
theorem offer_spec (h : ScriptOf S a cmds subId) (q : Nat) (p c : String) :
    c ∈ offer S q p ↔
      ∃ L, LevelCand S a cmds subId q p L c ∧ ∀ l c', LevelCand S a cmds subId q p l c' → L ≤ l := by
  rw [offer_eq_firstLevel]
  exact mem_firstLevel_iff_least (fun _ _ => mem_levelOut h) (fun _ _ => levelCand_le_max h) c

/-- the same with a literal transition of a level ≤ L (the accumulated array): no difference, a literal of
a lower level extending `p` would have been offered at its own level -/
theorem offer_spec_le (h : ScriptOf S a cmds subId) (q : Nat) (p c : String) :
    c ∈ offer S q p ↔
      ∃ L, ((∃ txt d t l, l ≤ L ∧ HasEdge a q (.lit txt d l) t ∧ c = txt ++ " " ∧
              isPrefix p.toList c.toList = true) ∨
            (∃ k t j, HasEdge a q (.sub k L) t ∧ subId k = some j ∧ c ∈ subComplete (S.sub j) S.out p) ∨
            (∃ cm t, HasEdge a q (.cmd cm L) t ∧ c ∈ S.out (cmds.idxOf cm) ∧
              isPrefix p.toList c.toList = true)) ∧
        (∃ c', LevelCand S a cmds subId q p L c') ∧
        ∀ l c', LevelCand S a cmds subId q p l c' → L ≤ l := by
  rw [offer_spec h]
  constructor
  · rintro ⟨L, hc, hmin⟩
    refine ⟨L, ?_, ⟨c, hc⟩, hmin⟩
    rcases hc with ⟨txt, d, t, he, hx⟩ | hc | hc
    · exact Or.inl ⟨txt, d, t, L, Nat.le_refl _, he, hx⟩
    · exact Or.inr (Or.inl hc)
    · exact Or.inr (Or.inr hc)
  · rintro ⟨L, hc, _, hmin⟩
    refine ⟨L, ?_, hmin⟩
    rcases hc with ⟨txt, d, t, l, hl, he, hx⟩ | hc | hc
    · have := hmin l c (Or.inl ⟨txt, d, t, he, hx⟩)
      have : l = L := by omega
      subst this
      exact Or.inl ⟨txt, d, t, he, hx⟩
    · exact Or.inr (Or.inl hc)
    · exact Or.inr (Or.inr hc)

theorem offer_nil_iff (h : ScriptOf S a cmds subId) (q : Nat) (p : String) :
    offer S q p = [] ↔ ∀ l c, ¬ LevelCand S a cmds subId q p l c :=
  nil_iff_of_mem_least (offer_spec h q p)

end offer

section complete
variable {S : Script} {a : Auto} {cmds : List String} {subId : Nat → Option Nat}

/-- No determinism assumed: return code 1 only when the run of the automaton on the earlier
words fails; otherwise COMPREPLY is the stripped candidates of a state a run leads to. -/
theorem complete_sound (h : ScriptOf S a cmds subId) (q0 : Nat) (ws : List String) (p wb : String) :
    (complete S q0 ws p wb = none ∧ Run S a cmds subId q0 ws .unmatched) ∨
    ∃ q, Run S a cmds subId q0 ws (.state q) ∧
      complete S q0 ws p wb = some ((offer S q p).map (strip p wb)) := by
  have hrun := walk_sound h ws q0
  unfold complete
  cases hw : walk S q0 ws with
  | unmatched =>
    rw [hw] at hrun
    exact Or.inl ⟨rfl, hrun⟩
  | state q =>
    rw [hw] at hrun
    exact Or.inr ⟨q, hrun, rfl⟩

theorem complete_none_iff (h : ScriptOf S a cmds subId) {q0 : Nat}
    (hdet : ∀ q, Reach S a cmds subId q0 q → ∀ w, StepDetAt S a cmds subId q w)
    (ws : List String) (p wb : String) :
    complete S q0 ws p wb = none ↔ Run S a cmds subId q0 ws .unmatched := by
  rw [← walk_spec h hdet]
  unfold complete
  cases walk S q0 ws <;> simp

theorem complete_spec (h : ScriptOf S a cmds subId) {q0 q : Nat} {ws : List String}
    (hdet : ∀ q, Reach S a cmds subId q0 q → ∀ w, StepDetAt S a cmds subId q w)
    (hrun : Run S a cmds subId q0 ws (.state q)) (p wb : String) :
    complete S q0 ws p wb = some ((offer S q p).map (strip p wb)) := by
  unfold complete
  rw [walk_complete h hrun hdet]
  rfl

theorem mem_complete_spec (h : ScriptOf S a cmds subId) {q0 q : Nat} {ws : List String}
    (hdet : ∀ q, Reach S a cmds subId q0 q → ∀ w, StepDetAt S a cmds subId q w)
    (hrun : Run S a cmds subId q0 ws (.state q)) (p wb : String) :
    ∃ cs, complete S q0 ws p wb = some cs ∧
      ∀ c, c ∈ cs ↔ ∃ m, Offered S a cmds subId q p m ∧ c = strip p wb m := by
  refine ⟨_, complete_spec h hdet hrun p wb, fun c => ?_⟩
  rw [List.mem_map]
  constructor
  · rintro ⟨m, hm, rfl⟩
    exact ⟨m, (offer_spec h q p m).mp hm, rfl⟩
  · rintro ⟨m, hm, rfl⟩
    exact ⟨m, (offer_spec h q p m).mpr hm, rfl⟩

end complete

section ofDfa
variable (d : Dfa) (out : Nat → List String)

abbrev DStep := WordStep (ofDfa d out) d.main (commands d) (subIdOf (subOrder d.main))
abbrev DStepDetAt := StepDetAt (ofDfa d out) d.main (commands d) (subIdOf (subOrder d.main))
abbrev DRun := Run (ofDfa d out) d.main (commands d) (subIdOf (subOrder d.main))
abbrev DReach := Reach (ofDfa d out) d.main (commands d) (subIdOf (subOrder d.main))
abbrev DExpected := CmdExpected (ofDfa d out) d.main (commands d)
abbrev DLevelCand := LevelCand (ofDfa d out) d.main (commands d) (subIdOf (subOrder d.main))
abbrev DOffered := Offered (ofDfa d out) d.main (commands d) (subIdOf (subOrder d.main))

theorem ofDfa_subRead_iff
    (hpool : ∀ q k l t, HasEdge d.main q (.sub k l) t → ∃ s, d.subs[k]? = some s)
    (q : Nat) (w : String) (t : Nat) :
    SubRead (ofDfa d out) d.main (subIdOf (subOrder d.main)) q w t ↔
      ∃ k lvl s, HasEdge d.main q (.sub k lvl) t ∧ d.subs[k]? = some s ∧
        subMatches (ofAuto s (commands d) fun _ => none) out w = true := by
  constructor
  · rintro ⟨k, lvl, j, he, hj, hm⟩
    obtain ⟨s, hs⟩ := hpool q k lvl t he
    rw [ofDfa_sub hj hs] at hm
    exact ⟨k, lvl, s, he, hs, hm⟩
  · rintro ⟨k, lvl, s, he, hs, hm⟩
    obtain ⟨j, hj⟩ := subOrder_cover he
    refine ⟨k, lvl, j, he, hj, ?_⟩
    rw [ofDfa_sub hj hs]
    exact hm

theorem ofDfa_readWord_sound {q : Nat} {w : String} {t : Nat}
    (hr : (readWord (ofDfa d out) q w).1 = some t) : DStep d out q w t :=
  readWord_sound (scriptOf_ofDfa d out) hr

theorem ofDfa_readWord_none_iff (q : Nat) (w : String) :
    (readWord (ofDfa d out) q w).1 = none ↔ ∀ t, ¬ DStep d out q w t :=
  readWord_none_iff (scriptOf_ofDfa d out) q w

theorem ofDfa_readWord_spec {q : Nat} {w : String} (hdet : DStepDetAt d out q w) (t : Nat) :
    (readWord (ofDfa d out) q w).1 = some t ↔ DStep d out q w t :=
  readWord_spec (scriptOf_ofDfa d out) hdet t

theorem ofDfa_readWord_flag (q : Nat) (w : String) :
    (readWord (ofDfa d out) q w).2 = true ↔
      (∀ t, ¬ LitRead d.main q w t) ∧
      (∀ t, ¬ SubRead (ofDfa d out) d.main (subIdOf (subOrder d.main)) q w t) ∧ DExpected d out q :=
  readWord_flag (scriptOf_ofDfa d out) q w

theorem ofDfa_walk_sound (ws : List String) (q0 : Nat) :
    DRun d out q0 ws (walk (ofDfa d out) q0 ws) :=
  walk_sound (scriptOf_ofDfa d out) ws q0

theorem ofDfa_walk_spec {q0 : Nat} (hdet : ∀ q, DReach d out q0 q → ∀ w, DStepDetAt d out q w)
    (ws : List String) (r : Walk) : walk (ofDfa d out) q0 ws = r ↔ DRun d out q0 ws r :=
  walk_spec (scriptOf_ofDfa d out) hdet ws r

theorem ofDfa_offer_spec (q : Nat) (p c : String) :
    c ∈ offer (ofDfa d out) q p ↔
      ∃ L, DLevelCand d out q p L c ∧ ∀ l c', DLevelCand d out q p l c' → L ≤ l :=
  offer_spec (scriptOf_ofDfa d out) q p c

/-- **The emitted bash script interprets the automaton**: with one reading per word at the states
reachable from `q0`, return code 1 exactly when the run of the automaton on the earlier words
fails; otherwise COMPREPLY is, as a set, the stripped candidates — literals (text + space), completions
inside a word, command output lines, all extending the typed prefix — of the least level that has any,
at the state the run ends in (possibly by the last-word heuristic). -/
theorem ofDfa_complete_spec {q0 : Nat}
    (hdet : ∀ q, DReach d out q0 q → ∀ w, DStepDetAt d out q w)
    (ws : List String) (p wb : String) :
    (complete (ofDfa d out) q0 ws p wb = none ↔ DRun d out q0 ws .unmatched) ∧
    ∀ q, DRun d out q0 ws (.state q) →
      ∃ cs, complete (ofDfa d out) q0 ws p wb = some cs ∧
        ∀ c, c ∈ cs ↔ ∃ m, DOffered d out q p m ∧ c = strip p wb m :=
  ⟨complete_none_iff (scriptOf_ofDfa d out) hdet ws p wb,
   fun _ hrun => mem_complete_spec (scriptOf_ofDfa d out) hdet hrun p wb⟩

end ofDfa

end Complgen.TemplateDfaAll

