/-
The `--dfa` dump (`Model/DotEmit.lean`: `emitDfa`, the transcription of `DFA::to_dot` /
`do_to_dot` / `diagnostic_display_input`) read back by the DOT reader (`Model/Dot.lean`).

* `emitDfa_parse`, faithfulness: for every automaton, pool of within-word automata and `array_start`, and
  whatever characters the literals, descriptions and commands contain, the reader accepts the dump
  and returns exactly `expectedStmts`: the node defaults, one node statement per state, one
  `subgraph cluster_…` per within-word automaton, one edge per transition whose `label` attribute
  has the value `labelValue (displayInput inp)`.
* `emitDfa_wellFormed`: in particular the dump is a well-formed DOT file — without any hypothesis.
* `display_labelValue`, `escLabel_decode`: what a label shows is the text of
  `diagnostic_display_input`, unaltered.

Method: `Lexes text toks` (the lexer reads `text` as `toks` whatever follows, in at most
`text.length` steps) and `Steps toks sts` (the statement reader reads `toks` as `sts` whatever
follows, given `2 * toks.length + 4` units of fuel) both compose under `++`; every emitted line has
both, and `Reads` packs the two.
-/
import Complgen.Model.DotEmit
import Complgen.Proofs.Quote
import Complgen.Gen.Chains
namespace Complgen.Dot
open Complgen.Quote

def Lexes (text : List Char) (toks : List Tok) : Prop :=
  ∃ k, k ≤ text.length ∧
    ∀ n rest acc, lex (n + k) (text ++ rest) acc = lex n rest (acc ++ toks)

abbrev IsWs (c : Char) : Prop := c = ' ' ∨ c = '\t' ∨ c = '\n'

abbrev IsPunct (c : Char) : Prop := c = '{' ∨ c = '}' ∨ c = '[' ∨ c = ']' ∨ c = ';' ∨ c = '='

def Blank (ind : List Char) : Prop := ∀ c ∈ ind, IsWs c

theorem lex_nil (n : Nat) (acc : List Tok) : lex (n + 1) [] acc = some acc := rfl

theorem lex_ws {c : Char} (h : IsWs c) (n : Nat) (rest : List Char) (acc : List Tok) :
    lex (n + 1) (c :: rest) acc = lex n rest acc := by
  rcases h with rfl | rfl | rfl <;> rfl

theorem lex_punct {c : Char} (h : IsPunct c) (n : Nat) (rest : List Char) (acc : List Tok) :
    lex (n + 1) (c :: rest) acc = lex n rest (acc ++ [.punct (String.singleton c)]) := by
  rcases h with rfl | rfl | rfl | rfl | rfl | rfl <;> rfl

theorem lex_arrow (n : Nat) (rest : List Char) (acc : List Tok) :
    lex (n + 1) ('-' :: '>' :: rest) acc = lex n rest (acc ++ [.punct "->"]) := rfl

theorem lex_quote (n : Nat) (rest : List Char) (acc : List Tok) :
    lex (n + 1) ('"' :: rest) acc =
      match lexQuoted rest [] with
      | some (v, r) => lex n r (acc ++ [.qid (String.ofList v)])
      | none => none := rfl

theorem isIdChar_of_isIdStart {c : Char} (h : isIdStart c = true) : isIdChar c = true := by
  simp only [isIdStart, isIdChar, Char.isAlphanum, Bool.or_eq_true, decide_eq_true_eq] at h ⊢
  rcases h with (h | h) | h
  · exact .inl (.inl (.inl h))
  · exact .inl (.inr h)
  · exact .inr h

theorem isIdChar_of_isDigit {c : Char} (h : c.isDigit = true) : isIdChar c = true := by
  simp [isIdChar, Char.isAlphanum, h]

theorem lex_id (c : Char) (w : List Char) (d : Char) (rest : List Char) (acc : List Tok) (n : Nat)
    (hc : isIdStart c = true) (hw : ∀ x ∈ w, isIdChar x = true) (hd : isIdChar d = false) :
    lex (n + 1) (c :: (w ++ d :: rest)) acc
      = lex n (d :: rest) (acc ++ [.id (String.ofList (c :: w))]) := by
  -- `c` is none of the characters the earlier branches of `lex` test for
  have hno : ∀ x ∈ [' ', '\t', '\n', '\r', '/', '#', '"', '-', '{', '}', '[', ']', ';', ',', '='],
      isIdStart x = false := by decide
  have hc' : c ∉ [' ', '\t', '\n', '\r', '/', '#', '"', '-', '{', '}', '[', ']', ';', ',', '='] :=
    fun hm => by rw [hno c hm] at hc; cases hc
  simp only [List.mem_cons, List.not_mem_nil, or_false, not_or] at hc'
  obtain ⟨h1, h2, h3, h4, h5, h6, h7, h8, h9, h10, h11, h12, h13, h14, h15⟩ := hc'
  have hcw : ∀ x ∈ c :: w, isIdChar x = true := by
    intro x hx
    rcases List.mem_cons.mp hx with rfl | hx
    · exact isIdChar_of_isIdStart hc
    · exact hw x hx
  have htw : (c :: (w ++ d :: rest)).takeWhile isIdChar = c :: w := by
    rw [← List.cons_append, List.takeWhile_append_of_pos hcw,
      List.takeWhile_cons_of_neg (by simp [hd]), List.append_nil]
  rw [lex.eq_def]
  simp only [h1, h2, h3, h4, h5, h6, h7, h8, h9, h10, h11, h12, h13, h14, h15,
    decide_false, Bool.or_false, Bool.false_eq_true, if_false, hc, if_true, htw]
  simp

theorem Lexes.nil : Lexes [] [] := ⟨0, by simp, by simp⟩

theorem Lexes.append {t₁ t₂ : List Char} {k₁ k₂ : List Tok} (h₁ : Lexes t₁ k₁) (h₂ : Lexes t₂ k₂) :
    Lexes (t₁ ++ t₂) (k₁ ++ k₂) := by
  obtain ⟨a, ha, h₁⟩ := h₁
  obtain ⟨b, hb, h₂⟩ := h₂
  refine ⟨b + a, by simp; omega, fun n rest acc => ?_⟩
  rw [← Nat.add_assoc, List.append_assoc, h₁, h₂, List.append_assoc]

theorem Lexes.step {c : Char} {t : List Char} {k toks : List Tok}
    (h : ∀ n rest acc, lex (n + 1) (c :: rest) acc = lex n rest (acc ++ k)) (l : Lexes t toks) :
    Lexes (c :: t) (k ++ toks) :=
  Lexes.append (t₁ := [c]) ⟨1, Nat.le_refl 1, h⟩ l

/-! ### tokens, each in front of a text that is already read -/

section
variable {t : List Char} {toks : List Tok}

theorem Lexes.ws (c : Char) (h : IsWs c) (l : Lexes t toks) : Lexes (c :: t) toks :=
  Lexes.step (k := []) (fun n rest acc => by rw [List.append_nil]; exact lex_ws h n rest acc) l

theorem Lexes.blank (ind : List Char) (h : Blank ind) (l : Lexes t toks) : Lexes (ind ++ t) toks := by
  induction ind with
  | nil => exact l
  | cons c ind ih =>
    exact (ih fun x hx => h x (List.mem_cons_of_mem c hx)).ws c (h c List.mem_cons_self)

theorem Lexes.punct (c : Char) (h : IsPunct c) (l : Lexes t toks) :
    Lexes (c :: t) (.punct (String.singleton c) :: toks) :=
  Lexes.step (lex_punct h) l

theorem Lexes.arrow (l : Lexes t toks) : Lexes ('-' :: '>' :: t) (.punct "->" :: toks) := by
  obtain ⟨k, hk, l⟩ := l
  exact ⟨k + 1, by simp only [List.length_cons]; omega, fun n rest acc => by
    rw [← Nat.add_assoc]; exact (lex_arrow _ _ _).trans ((l n rest _).trans (by simp))⟩

end

theorem Lexes.id (c : Char) (w : List Char) (d : Char) {t : List Char} {toks : List Tok}
    (hc : isIdStart c = true) (hw : ∀ x ∈ w, isIdChar x = true) (hd : isIdChar d = false)
    (l : Lexes (d :: t) toks) :
    Lexes (c :: (w ++ d :: t)) (.id (String.ofList (c :: w)) :: toks) := by
  obtain ⟨k, hk, l⟩ := l
  refine ⟨k + 1, by simp only [List.length_cons, List.length_append] at hk ⊢; omega,
    fun n rest acc => ?_⟩
  have e : (c :: (w ++ d :: t)) ++ rest = c :: (w ++ d :: (t ++ rest)) := by simp
  rw [e, ← Nat.add_assoc, lex_id c w d _ acc (n + k) hc hw hd]
  exact (l n rest _).trans (by simp)

theorem lexQuoted_plain (c : Char) (r acc : List Char) (h1 : c ≠ '"') (h2 : c ≠ '\\') :
    lexQuoted (c :: r) acc = lexQuoted r (acc ++ [c]) :=
  -- the other patterns of `lexQuoted` begin with a quote or a backslash
  lexQuoted.eq_6 acc c r h1 (fun _ h _ => h2 h) (fun _ h _ => h2 h) (fun _ h _ => h2 h)

theorem escLabel_cons (c : Char) (s : List Char) : escLabel (c :: s) = escLabel [c] ++ escLabel s :=
  applyChain_cons _ _ _

theorem escLabel_single (c : Char) : escLabel [c] =
    if c = '\\' then ['\\', '\\'] else if c = '"' then ['\\', '"'] else [c] := by
  by_cases h1 : c = '\\'
  · subst h1; decide
  · by_cases h2 : c = '"'
    · subst h2; decide
    · simp [escLabel, dotLabelChain, applyChain, rep1, h1, h2]

theorem labelValue_cons (c : Char) (s : List Char) :
    labelValue (c :: s) = (if c = '\\' then ['\\', '\\'] else [c]) ++ labelValue s := by
  simp [labelValue, rep1]

/-- the reader of quoted strings on an escaped label: it ends at the closing quote the emitter
wrote, not before, and keeps `labelValue s` -/
theorem lexQuoted_escLabel (s rest acc : List Char) :
    lexQuoted (escLabel s ++ '"' :: rest) acc = some (acc ++ labelValue s, rest) := by
  induction s generalizing acc with
  | nil => simp [escLabel, applyChain_nil, labelValue, rep1, lexQuoted]
  | cons c s ih =>
    rw [escLabel_cons, escLabel_single, labelValue_cons]
    by_cases h1 : c = '\\'
    · subst h1
      simp only [if_true, List.cons_append, List.nil_append]
      rw [lexQuoted, ih]; simp
    · by_cases h2 : c = '"'
      · subst h2
        simp only [if_neg h1, if_true, List.cons_append, List.nil_append]
        rw [lexQuoted, ih]; simp
      · simp only [if_neg h1, if_neg h2, List.cons_append, List.nil_append]
        rw [lexQuoted_plain _ _ _ h2 h1, ih]; simp

theorem Lexes.quotedThen (s : List Char) {t : List Char} {toks : List Tok} (l : Lexes t toks) :
    Lexes ('"' :: (escLabel s ++ '"' :: t)) (.qid (String.ofList (labelValue s)) :: toks) := by
  obtain ⟨k, hk, l⟩ := l
  refine ⟨k + 1, by simp only [List.length_cons, List.length_append]; omega,
    fun n rest acc => ?_⟩
  have e : ('"' :: (escLabel s ++ '"' :: t)) ++ rest = '"' :: (escLabel s ++ '"' :: (t ++ rest)) := by
    simp
  rw [e, ← Nat.add_assoc, lex_quote, lexQuoted_escLabel]
  exact (l n rest _).trans (by simp)

theorem Lexes.quoted (s : List Char) :
    Lexes ('"' :: escLabel s ++ ['"']) [.qid (String.ofList (labelValue s))] :=
  Lexes.quotedThen s Lexes.nil

def Plain (s : List Char) : Prop := ∀ c ∈ s, c ≠ '"' ∧ c ≠ '\\'

theorem escLabel_plain (s : List Char) (h : Plain s) : escLabel s = s := by
  induction s with
  | nil => simp [escLabel, applyChain_nil]
  | cons c s ih =>
    have := h c (by simp)
    rw [escLabel_cons, escLabel_single, ih fun x hx => h x (by simp [hx])]
    simp [this.1, this.2]

theorem labelValue_plain (s : List Char) (h : Plain s) : labelValue s = s := by
  induction s with
  | nil => simp [labelValue, rep1]
  | cons c s ih =>
    have := h c (by simp)
    rw [labelValue_cons, ih fun x hx => h x (by simp [hx])]
    simp [this.2]

theorem Lexes.quotedPlain (s : List Char) (h : Plain s) {t : List Char} {toks : List Tok}
    (l : Lexes t toks) : Lexes ('"' :: (s ++ '"' :: t)) (.qid (String.ofList s) :: toks) := by
  have := Lexes.quotedThen s l
  rwa [escLabel_plain s h, labelValue_plain s h] at this

theorem plain_of_idChars (s : List Char) (h : ∀ c ∈ s, isIdChar c = true) : Plain s := by
  intro c hc
  have := h c hc
  constructor <;> (rintro rfl; revert this; decide)

theorem keyword_ofList (l : List Char) :
    keyword (String.ofList l) = String.ofList (l.map Char.toLower) := by
  unfold keyword String.toLower
  rw [← String.toList_inj, String.toList_map, String.toList_ofList, String.toList_ofList]

def NotKw (s : String) : Prop :=
  (keyword s == "subgraph") = false ∧ (keyword s == "node") = false ∧
  (keyword s == "edge") = false ∧ (keyword s == "graph") = false

theorem notKw_ofList (l : List Char)
    (h : l.map Char.toLower ∉ [['s', 'u', 'b', 'g', 'r', 'a', 'p', 'h'], ['n', 'o', 'd', 'e'],
      ['e', 'd', 'g', 'e'], ['g', 'r', 'a', 'p', 'h']]) : NotKw (String.ofList l) := by
  simp only [List.mem_cons, List.not_mem_nil, or_false, not_or] at h
  rw [NotKw, keyword_ofList]
  exact ⟨beq_eq_false_iff_ne.mpr fun e => h.1 (String.ofList_inj.mp e),
    beq_eq_false_iff_ne.mpr fun e => h.2.1 (String.ofList_inj.mp e),
    beq_eq_false_iff_ne.mpr fun e => h.2.2.1 (String.ofList_inj.mp e),
    beq_eq_false_iff_ne.mpr fun e => h.2.2.2 (String.ofList_inj.mp e)⟩

theorem notKw_underscore (w : List Char) : NotKw (String.ofList ('_' :: w)) :=
  notKw_ofList _ (by simp)

theorem attrList_one (f : Nat) (k v : Tok) (ks vs : String) (hk : tokVal k = some ks)
    (hv : tokVal v = some vs) (rest : List Tok) (acc : List Attr) :
    attrList (f + 3) (.punct "[" :: k :: .punct "=" :: v :: .punct "]" :: .punct ";" :: rest) acc
      = some (acc ++ [⟨ks, vs⟩], .punct ";" :: rest) := by
  cases k <;> simp [tokVal] at hk <;> cases v <;> simp [tokVal] at hv <;> subst hk <;> subst hv <;>
    simp [attrList, attrList.inner, tokVal]

theorem stmts_semi (n : Nat) (rest : List Tok) (acc : List Stmt) :
    stmts (n + 1) (.punct ";" :: rest) acc = stmts n rest acc := by
  simp [stmts]

theorem stmts_close (n : Nat) (rest : List Tok) (acc : List Stmt) (h : 0 < n) :
    stmts n (.punct "}" :: rest) acc = some (acc, .punct "}" :: rest) := by
  obtain ⟨m, rfl⟩ : ∃ m, n = m + 1 := ⟨n - 1, by omega⟩
  simp [stmts]

theorem stmts_node (m : Nat) (name : String) (hn : NotKw name) (k v : Tok) (ks vs : String)
    (hk : tokVal k = some ks) (hv : tokVal v = some vs) (rest : List Tok) (acc : List Stmt) :
    stmts (m + 4 + 2)
        (.id name :: .punct "[" :: k :: .punct "=" :: v :: .punct "]" :: .punct ";" :: rest) acc
      = stmts (m + 4) rest (acc ++ [.node name [⟨ks, vs⟩]]) := by
  obtain ⟨h1, h2, h3, h4⟩ := hn
  rw [stmts]
  simp only [h1, h2, h3, h4, Bool.or_false, Bool.false_eq_true, if_false]
  rw [stmts.stmtFromId]
  · rw [show m + 4 + 1 = (m + 2) + 3 from rfl, attrList_one _ k v ks vs hk hv]
    simp only [List.nil_append]
    rw [show m + 2 + 3 = (m + 4) + 1 from rfl, stmts_semi]
  · simp
  · simp

theorem stmts_dflt (m : Nat) (kw : String) (hkw : keyword kw = "node") (k v : Tok) (ks vs : String)
    (hk : tokVal k = some ks) (hv : tokVal v = some vs) (rest : List Tok) (acc : List Stmt) :
    stmts (m + 4 + 2)
        (.id kw :: .punct "[" :: k :: .punct "=" :: v :: .punct "]" :: .punct ";" :: rest) acc
      = stmts (m + 4) rest (acc ++ [.dflt "node" [⟨ks, vs⟩]]) := by
  have h1 : (("node" : String) == "subgraph") = false := by decide
  rw [stmts]
  simp only [hkw, h1, Bool.false_eq_true, if_false, beq_self_eq_true, Bool.true_or, if_true]
  rw [show m + 4 + 1 = (m + 2) + 3 from rfl, attrList_one _ k v ks vs hk hv]
  simp only [List.nil_append]
  rw [show m + 2 + 3 = (m + 4) + 1 from rfl, stmts_semi]

theorem stmts_assign (m : Nat) (name : String) (hn : NotKw name) (v : Tok) (vs : String)
    (hv : tokVal v = some vs) (rest : List Tok) (acc : List Stmt) :
    stmts (m + 2) (.id name :: .punct "=" :: v :: .punct ";" :: rest) acc
      = stmts m rest (acc ++ [.assign name vs]) := by
  obtain ⟨h1, h2, h3, h4⟩ := hn
  rw [stmts]
  simp only [h1, h2, h3, h4, Bool.or_false, Bool.false_eq_true, if_false]
  rw [stmts.stmtFromId]
  simp only [hv]
  rw [stmts_semi]

theorem edgePath_one (f : Nat) (t : Tok) (ts : String) (ht : tokVal t = some ts) (rest : List Tok)
    (acc : List String) :
    edgePath (f + 2) (.punct "->" :: t :: .punct "[" :: rest) acc
      = some (acc ++ [ts], .punct "[" :: rest) := by
  rw [edgePath]; simp only [ht]; rw [edgePath]; simp

theorem stmts_edge (m : Nat) (a : String) (hn : NotKw a) (b k v : Tok) (bs ks vs : String)
    (hb : tokVal b = some bs)
    (hk : tokVal k = some ks) (hv : tokVal v = some vs) (rest : List Tok) (acc : List Stmt) :
    stmts (m + 4 + 2)
        (.id a :: .punct "->" :: b :: .punct "[" :: k :: .punct "=" :: v :: .punct "]" ::
          .punct ";" :: rest) acc
      = stmts (m + 4) rest (acc ++ [.edge [a, bs] [⟨ks, vs⟩]]) := by
  obtain ⟨h1, h2, h3, h4⟩ := hn
  rw [stmts]
  simp only [h1, h2, h3, h4, Bool.or_false, Bool.false_eq_true, if_false]
  rw [stmts.stmtFromId]
  · rw [show m + 4 + 1 = (m + 3) + 2 from rfl, edgePath_one _ b bs hb]
    simp only [List.cons_append, List.nil_append]
    rw [show m + 3 + 2 = (m + 2) + 3 from rfl, attrList_one _ k v ks vs hk hv]
    simp only [List.nil_append]
    rw [show m + 2 + 3 = (m + 4) + 1 from rfl, stmts_semi]

theorem stmts_sub (n : Nat) (kw : String) (hkw : keyword kw = "subgraph") (name : Tok) (ns : String)
    (hn : tokVal name = some ns) (body : List Tok) (bodySts : List Stmt) (rest : List Tok)
    (acc : List Stmt)
    (hb : stmts n (body ++ .punct "}" :: rest) [] = some (bodySts, .punct "}" :: rest)) :
    stmts (n + 1) (.id kw :: name :: .punct "{" :: (body ++ .punct "}" :: rest)) acc
      = stmts n rest (acc ++ [.sub ns bodySts]) := by
  rw [stmts]
  simp only [hkw, beq_self_eq_true, if_true, hn, hb]

def Steps (toks : List Tok) (sts : List Stmt) : Prop :=
  ∃ c, c ≤ toks.length ∧ ∀ n rest acc, 2 * toks.length + 4 ≤ n →
    stmts n (toks ++ rest) acc = stmts (n - c) rest (acc ++ sts)

theorem Steps.nil : Steps [] [] := ⟨0, by simp, by simp⟩

theorem Steps.append {t₁ t₂ : List Tok} {s₁ s₂ : List Stmt} (h₁ : Steps t₁ s₁) (h₂ : Steps t₂ s₂) :
    Steps (t₁ ++ t₂) (s₁ ++ s₂) := by
  obtain ⟨a, ha, h₁⟩ := h₁
  obtain ⟨b, hb, h₂⟩ := h₂
  refine ⟨a + b, by simp; omega, fun n rest acc hn => ?_⟩
  simp only [List.length_append] at hn
  rw [List.append_assoc, h₁ _ _ _ (by omega), h₂ _ _ _ (by omega), List.append_assoc,
    Nat.sub_sub]

theorem Steps.node (name : String) (hn : NotKw name) (k v : Tok) (ks vs : String)
    (hk : tokVal k = some ks) (hv : tokVal v = some vs) :
    Steps [.id name, .punct "[", k, .punct "=", v, .punct "]", .punct ";"]
      [.node name [⟨ks, vs⟩]] := by
  refine ⟨2, by simp, fun n rest acc h => ?_⟩
  obtain ⟨m, rfl⟩ : ∃ m, n = m + 4 + 2 := ⟨n - 6, by simp at h; omega⟩
  exact stmts_node m name hn k v ks vs hk hv rest acc

theorem Steps.dflt (kw : String) (hkw : keyword kw = "node") (k v : Tok) (ks vs : String)
    (hk : tokVal k = some ks) (hv : tokVal v = some vs) :
    Steps [.id kw, .punct "[", k, .punct "=", v, .punct "]", .punct ";"]
      [.dflt "node" [⟨ks, vs⟩]] := by
  refine ⟨2, by simp, fun n rest acc h => ?_⟩
  obtain ⟨m, rfl⟩ : ∃ m, n = m + 4 + 2 := ⟨n - 6, by simp at h; omega⟩
  exact stmts_dflt m kw hkw k v ks vs hk hv rest acc

theorem Steps.assign (name : String) (hn : NotKw name) (v : Tok) (vs : String)
    (hv : tokVal v = some vs) :
    Steps [.id name, .punct "=", v, .punct ";"] [.assign name vs] := by
  refine ⟨2, by simp, fun n rest acc h => ?_⟩
  obtain ⟨m, rfl⟩ : ∃ m, n = m + 2 := ⟨n - 2, by simp at h; omega⟩
  exact stmts_assign m name hn v vs hv rest acc

theorem Steps.edge (a : String) (hn : NotKw a) (b k v : Tok) (bs ks vs : String)
    (hb : tokVal b = some bs) (hk : tokVal k = some ks) (hv : tokVal v = some vs) :
    Steps [.id a, .punct "->", b, .punct "[", k, .punct "=", v, .punct "]", .punct ";"]
      [.edge [a, bs] [⟨ks, vs⟩]] := by
  refine ⟨2, by simp, fun n rest acc h => ?_⟩
  obtain ⟨m, rfl⟩ : ∃ m, n = m + 4 + 2 := ⟨n - 6, by simp at h; omega⟩
  exact stmts_edge m a hn b k v bs ks vs hb hk hv rest acc

theorem Steps.sub (kw : String) (hkw : keyword kw = "subgraph") (name : Tok) (ns : String)
    (hn : tokVal name = some ns) (body : List Tok) (bodySts : List Stmt) (hb : Steps body bodySts) :
    Steps (.id kw :: name :: .punct "{" :: (body ++ [.punct "}"])) [.sub ns bodySts] := by
  obtain ⟨c, hc, hb⟩ := hb
  refine ⟨1, by simp, fun n rest acc h => ?_⟩
  simp only [List.length_cons, List.length_append, List.length_nil] at h
  have e : (Tok.id kw :: name :: .punct "{" :: (body ++ [.punct "}"])) ++ rest
      = .id kw :: name :: .punct "{" :: (body ++ .punct "}" :: rest) := by simp
  obtain ⟨m, rfl⟩ : ∃ m, n = m + 1 := ⟨n - 1, by omega⟩
  rw [e]
  apply stmts_sub m kw hkw name ns hn
  rw [hb _ _ _ (by omega)]
  rw [stmts_close _ _ _ (by omega)]
  simp

def Reads (text : List Char) (sts : List Stmt) : Prop :=
  ∃ toks, Lexes text toks ∧ Steps toks sts

theorem Reads.nil : Reads [] [] := ⟨[], Lexes.nil, Steps.nil⟩

theorem Reads.append {t₁ t₂ : List Char} {s₁ s₂ : List Stmt} (h₁ : Reads t₁ s₁) (h₂ : Reads t₂ s₂) :
    Reads (t₁ ++ t₂) (s₁ ++ s₂) := by
  obtain ⟨k₁, l₁, p₁⟩ := h₁
  obtain ⟨k₂, l₂, p₂⟩ := h₂
  exact ⟨k₁ ++ k₂, l₁.append l₂, p₁.append p₂⟩

theorem Reads.cast {t t' : List Char} {s s' : List Stmt} (h : Reads t s) (ht : t' = t)
    (hs : s' = s) : Reads t' s' := by
  subst ht; subst hs; exact h

theorem Reads.newline : Reads ['\n'] [] := ⟨[], .ws '\n' (by decide) .nil, Steps.nil⟩

theorem Reads.flatMap {α} (l : List α) (f : α → List Char) (g : α → List Stmt)
    (h : ∀ x ∈ l, Reads (f x) (g x)) : Reads (l.flatMap f) (l.flatMap g) := by
  induction l with
  | nil => exact Reads.nil
  | cons x l ih =>
    simp only [List.flatMap_cons]
    exact (h x (by simp)).append (ih fun y hy => h y (by simp [hy]))

theorem Reads.flatMap_map {α} (l : List α) (f : α → List Char) (g : α → Stmt)
    (h : ∀ x ∈ l, Reads (f x) [g x]) : Reads (l.flatMap f) (l.map g) :=
  (Reads.flatMap l f (fun x => [g x]) h).cast rfl List.map_eq_flatMap

theorem blank_indent (lvl : Nat) : Blank (indent lvl) := by
  intro c hc
  simp only [indent, List.mem_cons, List.mem_replicate] at hc
  rcases hc with rfl | ⟨_, rfl⟩ <;> exact .inr (.inl rfl)

def PreOK (pre : List Char) : Prop := ∀ x ∈ pre, isIdChar x = true

theorem natChars_idChar (n : Nat) : ∀ x ∈ natChars n, isIdChar x = true := fun _ hx =>
  isIdChar_of_isDigit (Nat.isDigit_of_mem_toDigits (by decide) (by decide) hx)

theorem preOK_nil : PreOK [] := by intro x hx; cases hx

theorem preOK_subPrefix (id : Nat) : PreOK (subPrefix id) := by
  intro x hx
  simp only [subPrefix, List.mem_append, List.mem_singleton] at hx
  rcases hx with hx | rfl
  · exact natChars_idChar id x hx
  · decide

theorem idChars_append {a b : List Char} (ha : ∀ x ∈ a, isIdChar x = true)
    (hb : ∀ x ∈ b, isIdChar x = true) : ∀ x ∈ a ++ b, isIdChar x = true := by
  intro x hx
  rcases List.mem_append.mp hx with h | h
  · exact ha x h
  · exact hb x h

theorem plain_append {a b : List Char} (ha : Plain a) (hb : Plain b) : Plain (a ++ b) := by
  intro x hx
  rcases List.mem_append.mp hx with h | h
  · exact ha x h
  · exact hb x h

theorem keyword_node : keyword (String.ofList ['n', 'o', 'd', 'e']) = "node" := keyword_ofList _

/- Each line: the text of the model, with its string constants spelt out and the appends nested to
the right, is the text the token lemmas build, up to evaluating `++` on the spelt-out pieces. -/

theorem Reads.shapeLine (ind : List Char) (hind : Blank ind) (shape : String) (c : Char)
    (w : List Char) (hs : shape = String.ofList (c :: w)) (hc : isIdStart c = true)
    (hw : ∀ x ∈ w, isIdChar x = true) :
    Reads (shapeLine ind shape.toList) [shapeStmt shape] := by
  subst hs
  refine ⟨[.id (String.ofList ['n', 'o', 'd', 'e']), .punct "[",
    .id (String.ofList ['s', 'h', 'a', 'p', 'e']), .punct "=", .id (String.ofList (c :: w)),
    .punct "]", .punct ";"], ?_, Steps.dflt _ keyword_node _ _ "shape" _ rfl rfl⟩
  simp only [Dot.shapeLine, String.toList_ofList, String.reduceToList, List.append_assoc]
  exact .blank ind hind <| .id 'n' ['o', 'd', 'e'] ' ' (by decide) (by decide) (by decide) <|
    .ws ' ' (by decide) <| .punct '[' (by decide) <|
    .id 's' ['h', 'a', 'p', 'e'] '=' (by decide) (by decide) (by decide) <| .punct '=' (by decide) <|
    .id c w ']' hc hw (by decide) <| .punct ']' (by decide) <| .punct ';' (by decide) <|
    .ws '\n' (by decide) .nil

theorem notKw_nodeName (pre : List Char) (n : Nat) : NotKw (nodeName pre n) :=
  notKw_underscore _

theorem nodeId_idChars {pre : List Char} (hpre : PreOK pre) (n : Nat) :
    ∀ x ∈ pre ++ natChars n, isIdChar x = true :=
  idChars_append hpre (natChars_idChar n)

theorem Reads.nodeLine (ind : List Char) (hind : Blank ind) (pre : List Char) (hpre : PreOK pre)
    (n : Nat) : Reads (nodeLine ind pre n) [nodeStmt pre n] := by
  have hw := nodeId_idChars hpre n
  refine ⟨[.id (nodeName pre n), .punct "[", .id (String.ofList ['l', 'a', 'b', 'e', 'l']),
    .punct "=", .qid (String.ofList (pre ++ natChars n)), .punct "]", .punct ";"], ?_,
    Steps.node _ (notKw_nodeName pre n) _ _ "label" _ rfl rfl⟩
  simp only [Dot.nodeLine, nodeId, String.reduceToList, List.append_assoc, List.cons_append]
  rw [← List.append_assoc pre, ← List.append_assoc pre]
  exact .blank ind hind <| .id '_' _ '[' (by decide) hw (by decide) <| .punct '[' (by decide) <|
    .id 'l' ['a', 'b', 'e', 'l'] '=' (by decide) (by decide) (by decide) <| .punct '=' (by decide) <|
    .quotedPlain _ (plain_of_idChars _ hw) <| .punct ']' (by decide) <| .punct ';' (by decide) <|
    .ws '\n' (by decide) .nil

theorem Reads.edgeLine (ind : List Char) (hind : Blank ind) (p₁ p₂ : List Char)
    (h₁ : PreOK p₁) (h₂ : PreOK p₂) (n₁ n₂ : Nat) (kc : Char) (kw q : List Char) (v : String)
    (hkc : isIdStart kc = true) (hkw : ∀ x ∈ kw, isIdChar x = true)
    (hq : ∀ {t toks}, Lexes t toks → Lexes ('"' :: (q ++ '"' :: t)) (.qid v :: toks)) :
    Reads (ind ++ ('_' :: (p₁ ++ (natChars n₁ ++ ' ' :: '-' :: '>' :: ' ' :: '_' :: (p₂ ++
        (natChars n₂ ++ ' ' :: '[' :: kc :: (kw ++ '=' :: '"' :: (q ++ ['"', ']', ';', '\n']))))))))
      [.edge [nodeName p₁ n₁, nodeName p₂ n₂] [⟨String.ofList (kc :: kw), v⟩]] := by
  refine ⟨[.id (nodeName p₁ n₁), .punct "->", .id (nodeName p₂ n₂), .punct "[",
    .id (String.ofList (kc :: kw)), .punct "=", .qid v, .punct "]", .punct ";"], ?_,
    Steps.edge _ (notKw_nodeName p₁ n₁) _ _ _ _ _ _ rfl rfl rfl⟩
  rw [← List.append_assoc p₁, ← List.append_assoc p₂]
  exact .blank ind hind <| .id '_' _ ' ' (by decide) (nodeId_idChars h₁ n₁) (by decide) <|
    .ws ' ' (by decide) <| .arrow <| .ws ' ' (by decide) <|
    .id '_' _ ' ' (by decide) (nodeId_idChars h₂ n₂) (by decide) <| .ws ' ' (by decide) <|
    .punct '[' (by decide) <| .id kc kw '=' hkc hkw (by decide) <| .punct '=' (by decide) <| hq <|
    .punct ']' (by decide) <| .punct ';' (by decide) <| .ws '\n' (by decide) .nil

theorem Reads.dashedLine (ind : List Char) (hind : Blank ind) (p₁ p₂ : List Char)
    (h₁ : PreOK p₁) (h₂ : PreOK p₂) (n₁ n₂ : Nat) :
    Reads (dashedLine ind (nodeId p₁ n₁) (nodeId p₂ n₂))
      [dashedStmt (nodeName p₁ n₁) (nodeName p₂ n₂)] := by
  simp only [Dot.dashedLine, nodeId, String.reduceToList, List.append_assoc, List.cons_append]
  exact Reads.edgeLine ind hind p₁ p₂ h₁ h₂ n₁ n₂ 's' ['t', 'y', 'l', 'e']
    ['d', 'a', 's', 'h', 'e', 'd'] "dashed" (by decide) (by decide)
    (Lexes.quotedPlain _ (plain_of_idChars _ (by decide)))

theorem Reads.labelLine (ind : List Char) (hind : Blank ind) (p₁ p₂ : List Char)
    (h₁ : PreOK p₁) (h₂ : PreOK p₂) (n₁ n₂ : Nat) (label : List Char) :
    Reads (labelLine ind (nodeId p₁ n₁) (nodeId p₂ n₂) label)
      [labelStmt (nodeName p₁ n₁) (nodeName p₂ n₂) label] := by
  simp only [Dot.labelLine, nodeId, String.reduceToList, List.append_assoc, List.cons_append]
  exact Reads.edgeLine ind hind p₁ p₂ h₁ h₂ n₁ n₂ 'l' ['a', 'b', 'e', 'l'] (escLabel label) _
    (by decide) (by decide) (Lexes.quotedThen label)

theorem Reads.transLines (pool : List Auto) (a : Auto) (base : Nat) (ids : List (Nat × Nat))
    (ind : List Char) (hind : Blank ind) (pre : List Char) (hpre : PreOK pre)
    (t : Nat × Nat × Nat) :
    Reads (transLines pool a base ids ind pre t) (transStmts pool a base ids pre t) := by
  unfold Dot.transLines transStmts
  generalize inputAt a t.2.1 = inp
  cases inp with
  | sub k l =>
    dsimp only
    exact (Reads.dashedLine ind hind _ _ hpre (preOK_subPrefix _) _ _).append
      (Reads.flatMap_map _ _ _ fun q _ =>
        Reads.dashedLine ind hind _ _ (preOK_subPrefix _) hpre _ _)
  | lit t d l => exact Reads.labelLine ind hind _ _ hpre hpre _ _ _
  | cmd c l => exact Reads.labelLine ind hind _ _ hpre hpre _ _ _
  | compadd c l => exact Reads.labelLine ind hind _ _ hpre hpre _ _ _
  | star => exact Reads.labelLine ind hind _ _ hpre hpre _ _ _

theorem keyword_subgraph :
    keyword (String.ofList ['s', 'u', 'b', 'g', 'r', 'a', 'p', 'h']) = "subgraph" :=
  keyword_ofList _

def clusterAttrToks (id : Nat) : List Tok :=
  [.id (String.ofList ['l', 'a', 'b', 'e', 'l']), .punct "=",
   .qid (String.ofList (['s', 'u', 'b', 'w', 'o', 'r', 'd', ' '] ++ natChars id)), .punct ";",
   .id (String.ofList ['c', 'o', 'l', 'o', 'r']), .punct "=",
   .id (String.ofList ['g', 'r', 'e', 'y', '9', '1']), .punct ";",
   .id (String.ofList ['s', 't', 'y', 'l', 'e']), .punct "=",
   .id (String.ofList ['f', 'i', 'l', 'l', 'e', 'd']), .punct ";"]

theorem steps_clusterAttrs (id : Nat) : Steps (clusterAttrToks id) (clusterAttrs id) := by
  have h := (Steps.assign _ (notKw_ofList ['l', 'a', 'b', 'e', 'l'] (by decide))
      (.qid (String.ofList (['s', 'u', 'b', 'w', 'o', 'r', 'd', ' '] ++ natChars id))) _ rfl).append <|
    (Steps.assign _ (notKw_ofList ['c', 'o', 'l', 'o', 'r'] (by decide))
      (.id (String.ofList ['g', 'r', 'e', 'y', '9', '1'])) _ rfl).append
    (Steps.assign _ (notKw_ofList ['s', 't', 'y', 'l', 'e'] (by decide))
      (.id (String.ofList ['f', 'i', 'l', 'l', 'e', 'd'])) _ rfl)
  simp only [clusterAttrs, String.reduceToList]
  exact h

theorem lexes_clusterHead (ind : List Char) (hind : Blank ind) (pre : List Char)
    (hpre : PreOK pre) (id : Nat) {t : List Char} {toks : List Tok} (l : Lexes t toks) :
    Lexes (clusterHead ind pre id ++ t)
      (.id (String.ofList ['s', 'u', 'b', 'g', 'r', 'a', 'p', 'h']) :: .id (clusterName pre id) ::
        .punct "{" :: (clusterAttrToks id ++ toks)) := by
  have hname : ∀ x ∈ ['l', 'u', 's', 't', 'e', 'r', '_'] ++ (pre ++ natChars id),
      isIdChar x = true := idChars_append (by decide) (nodeId_idChars hpre id)
  have hsub : Plain (['s', 'u', 'b', 'w', 'o', 'r', 'd', ' '] ++ natChars id) :=
    plain_append (by intro c hc; revert c; decide)
      (plain_of_idChars _ (natChars_idChar id))
  -- `delta`: the equation lemma of `clusterHead` is dear (making it evaluates the string constants)
  delta clusterName clusterHead
  simp only [String.reduceToList, List.append_assoc]
  rw [← List.append_assoc pre]
  have attr : ∀ {t toks}, Lexes t toks → Lexes ('\n' :: (ind ++ '\t' :: t)) toks := fun l =>
    .ws '\n' (by decide) <| .blank ind hind <| .ws '\t' (by decide) l
  exact .blank ind hind <|
    .id 's' ['u', 'b', 'g', 'r', 'a', 'p', 'h'] ' ' (by decide) (by decide) (by decide) <|
    .ws ' ' (by decide) <| .id 'c' _ ' ' (by decide) hname (by decide) <| .ws ' ' (by decide) <|
    .punct '{' (by decide) <| attr <|
    .id 'l' ['a', 'b', 'e', 'l'] '=' (by decide) (by decide) (by decide) <| .punct '=' (by decide) <|
    .quotedPlain _ hsub <| .punct ';' (by decide) <| attr <|
    .id 'c' ['o', 'l', 'o', 'r'] '=' (by decide) (by decide) (by decide) <| .punct '=' (by decide) <|
    .id 'g' ['r', 'e', 'y', '9', '1'] ';' (by decide) (by decide) (by decide) <|
    .punct ';' (by decide) <| attr <|
    .id 's' ['t', 'y', 'l', 'e'] '=' (by decide) (by decide) (by decide) <| .punct '=' (by decide) <|
    .id 'f' ['i', 'l', 'l', 'e', 'd'] ';' (by decide) (by decide) (by decide) <|
    .punct ';' (by decide) <| .ws '\n' (by decide) l

theorem lexes_clusterTail (ind : List Char) (hind : Blank ind) :
    Lexes (clusterTail ind) [.punct "}"] := by
  simp only [Dot.clusterTail, String.reduceToList]
  exact .blank ind hind <| .punct '}' (by decide) <| .ws '\n' (by decide) .nil

theorem Reads.cluster (ind : List Char) (hind : Blank ind) (pre : List Char) (hpre : PreOK pre)
    (id : Nat) (body : List Char) (bodySts : List Stmt) (hb : Reads body bodySts) :
    Reads (clusterHead ind pre id ++ body ++ clusterTail ind)
      [.sub (clusterName pre id) (clusterAttrs id ++ bodySts)] := by
  obtain ⟨bt, bl, bs⟩ := hb
  refine ⟨.id (String.ofList ['s', 'u', 'b', 'g', 'r', 'a', 'p', 'h']) :: .id (clusterName pre id) ::
    .punct "{" :: ((clusterAttrToks id ++ bt) ++ [.punct "}"]), ?_,
    Steps.sub _ keyword_subgraph (.id (clusterName pre id)) _ rfl _ _
      ((steps_clusterAttrs id).append bs)⟩
  rw [List.append_assoc, List.append_assoc]
  exact lexes_clusterHead ind hind pre hpre id (bl.append (lexes_clusterTail ind hind))

theorem Reads.startShapeLine (ind : List Char) (hind : Blank ind) (a : Auto) :
    Reads (Dot.shapeLine ind (startShape a).toList) [shapeStmt (startShape a)] := by
  unfold startShape
  split
  · exact Reads.shapeLine ind hind "doubleoctagon" 'd'
      ['o', 'u', 'b', 'l', 'e', 'o', 'c', 't', 'a', 'g', 'o', 'n'] rfl (by decide) (by decide)
  · exact Reads.shapeLine ind hind "octagon" 'o' ['c', 't', 'a', 'g', 'o', 'n'] rfl (by decide)
      (by decide)

/-- `emitAuto` / `expAuto` with the bodies of the clusters abstracted -/
theorem reads_autoBody (pool : List Auto) (a : Auto) (base : Nat) (pre : List Char)
    (hpre : PreOK pre) (lvl : Nat) (body : Nat × Nat → List Char) (bodySts : Nat × Nat → List Stmt)
    (hb : ∀ p, Reads (body p) (bodySts p)) :
    Reads
      (shapeLine (indent lvl) (startShape a).toList ++
        nodeLine (indent lvl) pre (a.start + base) ++
        shapeLine (indent lvl) "circle".toList ++
        (regularStates a).flatMap (fun q => nodeLine (indent lvl) pre (q + base)) ++
        ['\n'] ++
        shapeLine (indent lvl) "doublecircle".toList ++
        (acceptingStates a).flatMap (fun q => nodeLine (indent lvl) pre (q + base)) ++
        ['\n'] ++
        (subwordIds a base).flatMap (fun p =>
          clusterHead (indent lvl) pre p.2 ++ body p ++ clusterTail (indent lvl)) ++
        (grouped a).flatMap (transLines pool a base (subwordIds a base) (indent lvl) pre))
      ([shapeStmt (startShape a), nodeStmt pre (a.start + base), shapeStmt "circle"] ++
        (regularStates a).map (fun q => nodeStmt pre (q + base)) ++
        [shapeStmt "doublecircle"] ++
        (acceptingStates a).map (fun q => nodeStmt pre (q + base)) ++
        (subwordIds a base).map (fun p =>
          .sub (clusterName pre p.2) (clusterAttrs p.2 ++ bodySts p)) ++
        (grouped a).flatMap (transStmts pool a base (subwordIds a base) pre)) := by
  have hind := blank_indent lvl
  have h := (Reads.startShapeLine _ hind a).append <|
    (Reads.nodeLine _ hind pre hpre (a.start + base)).append <|
    (Reads.shapeLine _ hind "circle" 'c' ['i', 'r', 'c', 'l', 'e'] rfl (by decide)
      (by decide)).append <|
    (Reads.flatMap_map (regularStates a) _ _ fun q _ =>
      Reads.nodeLine _ hind pre hpre (q + base)).append <|
    Reads.newline.append <|
    (Reads.shapeLine _ hind "doublecircle" 'd'
      ['o', 'u', 'b', 'l', 'e', 'c', 'i', 'r', 'c', 'l', 'e'] rfl (by decide) (by decide)).append <|
    (Reads.flatMap_map (acceptingStates a) _ _ fun q _ =>
      Reads.nodeLine _ hind pre hpre (q + base)).append <|
    Reads.newline.append <|
    (Reads.flatMap_map (subwordIds a base) _ _ fun p _ =>
      Reads.cluster _ hind pre hpre p.2 (body p) (bodySts p) (hb p)).append <|
    Reads.flatMap (grouped a) _ _ fun t _ =>
      Reads.transLines pool a base (subwordIds a base) _ hind pre hpre t
  refine h.cast ?_ ?_
  · simp only [List.append_assoc]
  · simp only [List.append_assoc, List.cons_append, List.nil_append]

theorem reads_emitAuto (fuel : Nat) (pool : List Auto) (a : Auto) (base : Nat) (pre : List Char)
    (hpre : PreOK pre) (lvl : Nat) :
    Reads (emitAuto fuel pool a base pre lvl) (expAuto fuel pool a base pre) := by
  induction fuel generalizing a pre lvl with
  | zero =>
    exact reads_autoBody pool a base pre hpre lvl (fun _ => []) (fun _ => []) fun _ => Reads.nil
  | succ f ih =>
    exact reads_autoBody pool a base pre hpre lvl _ _ fun p =>
      ih (lookupSub pool p.1) (subPrefix p.2) (preOK_subPrefix p.2) (lvl + 1)

theorem Lexes.run {text : List Char} {toks : List Tok} (h : Lexes text toks) :
    lex (text.length + 1) text [] = some toks := by
  obtain ⟨k, hk, h⟩ := h
  have := h (text.length - k + 1) [] []
  rwa [show text.length - k + 1 + k = text.length + 1 by omega, List.append_nil, lex_nil,
    List.nil_append] at this

theorem parse_digraph (body : List Char) (sts : List Stmt) (h : Reads body sts) :
    parse (String.ofList (['d', 'i', 'g', 'r', 'a', 'p', 'h', ' ', 'd', 'f', 'a', ' ', '{', '\n'] ++
      (body ++ ['}', '\n']))) = some ("dfa", sts) := by
  obtain ⟨bt, bl, c, hc, bs⟩ := h
  have hl : Lexes (['d', 'i', 'g', 'r', 'a', 'p', 'h', ' ', 'd', 'f', 'a', ' ', '{', '\n'] ++
      (body ++ ['}', '\n']))
      (.id (String.ofList ['d', 'i', 'g', 'r', 'a', 'p', 'h']) :: .id "dfa" :: .punct "{" ::
        (bt ++ [.punct "}"])) :=
    .id 'd' ['i', 'g', 'r', 'a', 'p', 'h'] ' ' (by decide) (by decide) (by decide) <|
      .ws ' ' (by decide) <| .id 'd' ['f', 'a'] ' ' (by decide) (by decide) (by decide) <|
      .ws ' ' (by decide) <| .punct '{' (by decide) <| .ws '\n' (by decide) <|
      bl.append <| .punct '}' (by decide) <| .ws '\n' (by decide) .nil
  have hk : keyword (String.ofList ['d', 'i', 'g', 'r', 'a', 'p', 'h']) = "digraph" :=
    keyword_ofList _
  have e1 : (("digraph" : String) == "strict") = false := by decide
  unfold parse
  simp only [String.toList_ofList, hl.run, hk, e1, Bool.false_eq_true, if_false]
  rw [bs _ _ _ (by simp only [List.length_cons, List.length_append]; omega)]
  rw [stmts_close _ _ _ (by simp only [List.length_cons, List.length_append]; omega)]
  simp [tokVal]

theorem reads_rankdir :
    Reads ['\t', 'r', 'a', 'n', 'k', 'd', 'i', 'r', '=', 'L', 'R', ';', '\n']
      [.assign "rankdir" "LR"] :=
  ⟨[.id (String.ofList ['r', 'a', 'n', 'k', 'd', 'i', 'r']), .punct "=",
      .id (String.ofList ['L', 'R']), .punct ";"],
    .ws '\t' (by decide) <|
      .id 'r' ['a', 'n', 'k', 'd', 'i', 'r'] '=' (by decide) (by decide) (by decide) <|
      .punct '=' (by decide) <| .id 'L' ['R'] ';' (by decide) (by decide) (by decide) <|
      .punct ';' (by decide) <| .ws '\n' (by decide) .nil,
    Steps.assign _ (notKw_ofList ['r', 'a', 'n', 'k', 'd', 'i', 'r'] (by decide)) _ "LR" rfl⟩

/-- **Faithfulness.**  For every automaton, every pool of within-word automata and every
`array_start`, whatever the literals, descriptions and commands contain: the DOT reader accepts the
dump of `DFA::to_dot` and reads exactly the graph `expectedStmts` — `rankdir`, the node defaults,
one node per state, one cluster per within-word automaton (recursively), one edge per transition
carrying the label `labelValue (displayInput inp)`, dashed edges in and out of the clusters. -/
theorem emitDfa_parse (d : Dfa) (base : Nat) :
    parse (emitDfa d base) = some ("dfa", expectedStmts d base) := by
  unfold emitDfa expectedStmts emitDfaChars
  simp only [String.reduceToList, List.append_assoc]
  rw [← List.append_assoc _ (emitAuto _ _ _ _ _ _)]
  exact parse_digraph _ _
    (reads_rankdir.append (reads_emitAuto (d.subs.length + 1) d.subs d.main base [] preOK_nil 0))

/-- **Well-formedness**: the dump is always a syntactically valid DOT file.  No hypothesis on
the texts: quotes, backslashes (also at the end of a label, also in front of a newline), newlines,
braces, `*/`, `//`, `#`, `<`, `>` are all inside a quoted string that ends where the emitter ends
it. -/
theorem emitDfa_wellFormed (d : Dfa) (base : Nat) : (parse (emitDfa d base)).isSome = true := by
  rw [emitDfa_parse]; rfl

/-- the chain of the model is the chain regenerated from dfa.rs -/
theorem dotLabelChain_eq_gen : dotLabelChain = Complgen.Gen.dotDfaLabelChain := by decide

theorem display_cons_plain (c : Char) (r : List Char) (h : c ≠ '\\') :
    display (c :: r) = c :: display r :=
  -- the other patterns of `display` begin with a backslash
  display.eq_7 c r (fun _ e _ => h e) (fun _ e _ => h e) (fun _ e _ => h e) (fun _ e _ => h e)
    fun _ _ e _ => h e

/-- the label renderer (`escString`: `\\` is a backslash) shows the text of
`diagnostic_display_input` unaltered: nothing in it is taken for an escape sequence -/
theorem display_labelValue (s : List Char) : display (labelValue s) = s := by
  induction s with
  | nil => simp [labelValue, rep1, display]
  | cons c s ih =>
    rw [labelValue_cons]
    by_cases h : c = '\\'
    · subst h
      simp only [if_true, List.cons_append, List.nil_append]
      rw [display, ih]
    · simp only [if_neg h, List.cons_append, List.nil_append]
      rw [display_cons_plain c _ h, ih]

/-- the decimal numbers of the model are Rust's `{}` / Lean's `toString` -/
theorem ofList_natChars (n : Nat) : String.ofList (natChars n) = toString n :=
  Nat.toString_eq_ofList_toDigits.symm

/-- in the canonical dump of `Model/Dot.lean` (`attrOf`: the displayed text of an attribute), the
label of the edge of a transition is the text of `diagnostic_display_input` -/
theorem attrOf_labelStmt (label : List Char) :
    attrOf [⟨"label", String.ofList (labelValue label)⟩] "label"
      = Hex.encode (String.ofList label) := by
  simp [attrOf, display_labelValue]

theorem dotLabelChain_ok : chainOK dotDialect dotLabelChain = true := by decide +kernel

/-- the same through the string-level reader of `Model/Quote.lean` (`dot_dfa_label_roundtrip` of
C16, for the chain of the model) -/
theorem escLabel_decode (s : List Char) : dotDialect.decode (escLabel s) = some s :=
  chain_roundtrip dotDialect dotLabelChain dotLabelChain_ok s

/-- an escaped label never contains a backslash in front of a newline that the reader would drop
as a line continuation, nor a quote that would end the string: the reader goes through the whole
label (instance: the label `a\⏎"`) -/
example : lexQuoted (escLabel ['a', '\\', '\n', '"'] ++ ['"', ']']) [] =
    some (['a', '\\', '\\', '\n', '"'], [']']) := by decide

/-- without the chain the same label ends its string early -/
example : lexQuoted (['a', '\\', '\n', '"'] ++ ['"', ']']) [] = some (['a'], ['"', ']']) := by
  decide

end Complgen.Dot
