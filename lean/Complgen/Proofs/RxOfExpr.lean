/-
`rxOfExpr` (the model of `do_from_expr`) numbers the leaves of an expression left to right and
yields a regular expression with the same meaning; with `Glushkov.lean` and `Subset.lean` this
gives the correctness of the raw automaton built from an expression.
-/
import Complgen.Proofs.Glushkov
import Complgen.Proofs.Subset
namespace Complgen

private theorem pair_eta {α β : Type} (p : α × β) : (p.1, p.2) = p := rfl

/-! ## unfolding equations in projection form -/

theorem rxOfExpr_seq (cs : ExprL) (s : Span) (st : List RxInput × RxPool) :
    rxOfExpr (.seq cs s) st = (.cat (rxOfExprL cs st).1, (rxOfExprL cs st).2) := by
  simp only [rxOfExpr]

theorem rxOfExpr_alt (cs : ExprL) (s : Span) (st : List RxInput × RxPool) :
    rxOfExpr (.alt cs s) st = (.or (rxOfExprL cs st).1, (rxOfExprL cs st).2) := by
  simp only [rxOfExpr]

theorem rxOfExpr_fb (cs : ExprL) (s : Span) (st : List RxInput × RxPool) :
    rxOfExpr (.fb cs s) st = (.or (rxOfExprL cs st).1, (rxOfExprL cs st).2) := by
  simp only [rxOfExpr]

theorem rxOfExpr_opt (c : Expr) (s : Span) (st : List RxInput × RxPool) :
    rxOfExpr (.opt c s) st
      = (.or (.cons (rxOfExpr c st).1 (.cons .eps .nil)), (rxOfExpr c st).2) := by
  simp only [rxOfExpr]

theorem rxOfExpr_many1 (c : Expr) (s : Span) (st : List RxInput × RxPool) :
    rxOfExpr (.many1 c s) st = (.plus (rxOfExpr c st).1, (rxOfExpr c st).2) := by
  simp only [rxOfExpr]

theorem rxOfExpr_dd (c : Expr) (d : String) (s : Span) (st : List RxInput × RxPool) :
    rxOfExpr (.dd c d s) st = (.eps, st) := by
  simp only [rxOfExpr]

theorem rxOfExpr_sub_fst (c : Expr) (l : Nat) (s : Span) (ins : List RxInput) (pool : RxPool) :
    (rxOfExpr (.sub c l s) (ins, pool)).1 = .sym ins.length := by
  simp only [rxOfExpr]

theorem rxOfExpr_sub_len (c : Expr) (l : Nat) (s : Span) (ins : List RxInput) (pool : RxPool) :
    (rxOfExpr (.sub c l s) (ins, pool)).2.1.length = ins.length + 1 := by
  simp only [rxOfExpr, List.length_append, List.length_singleton]

theorem rxOfExprL_nil (st : List RxInput × RxPool) : rxOfExprL .nil st = (.nil, st) := by
  simp only [rxOfExprL]

theorem rxOfExprL_cons (e : Expr) (es : ExprL) (st : List RxInput × RxPool) :
    rxOfExprL (.cons e es) st
      = (.cons (rxOfExpr e st).1 (rxOfExprL es (rxOfExpr e st).2).1,
          (rxOfExprL es (rxOfExpr e st).2).2) := by
  simp only [rxOfExprL]

mutual
theorem rxOfExpr_num : (e : Expr) → (ins : List RxInput) → (pool : RxPool) →
    (rxOfExpr e (ins, pool)).1.positions = List.range' ins.length e.leafCount ∧
    (rxOfExpr e (ins, pool)).2.1.length = ins.length + e.leafCount
  | .term .. | .nonterm .. | .cmd .. => fun ins pool => by
    simp [rxOfExpr, Rx.positions, Expr.leafCount]
  | .sub c l s => fun ins pool => by
    rw [rxOfExpr_sub_fst, rxOfExpr_sub_len]
    simp [Rx.positions, Expr.leafCount]
  | .seq cs s => fun ins pool => by
    rw [rxOfExpr_seq]
    exact rxOfExprL_num cs ins pool
  | .alt cs s => fun ins pool => by
    rw [rxOfExpr_alt]
    exact rxOfExprL_num cs ins pool
  | .fb cs s => fun ins pool => by
    rw [rxOfExpr_fb]
    exact rxOfExprL_num cs ins pool
  | .opt c s => fun ins pool => by
    rw [rxOfExpr_opt]
    simpa only [Rx.positions, Rx.positionsL, Expr.leafCount, List.append_nil]
      using rxOfExpr_num c ins pool
  | .many1 c s => fun ins pool => by
    rw [rxOfExpr_many1]
    exact rxOfExpr_num c ins pool
  | .dd c d s => fun ins pool => by
    rw [rxOfExpr_dd]
    simp [Rx.positions, Expr.leafCount]
theorem rxOfExprL_num : (es : ExprL) → (ins : List RxInput) → (pool : RxPool) →
    Rx.positionsL (rxOfExprL es (ins, pool)).1 = List.range' ins.length es.leafCount ∧
    (rxOfExprL es (ins, pool)).2.1.length = ins.length + es.leafCount
  | .nil => fun ins pool => by
    rw [rxOfExprL_nil]
    simp [Rx.positionsL, ExprL.leafCount]
  | .cons e es => fun ins pool => by
    rw [rxOfExprL_cons]
    have h1 := rxOfExpr_num e ins pool
    have h2 := rxOfExprL_num es (rxOfExpr e (ins, pool)).2.1 (rxOfExpr e (ins, pool)).2.2
    simp only [pair_eta] at h2
    simp only [Rx.positionsL, ExprL.leafCount, h1.1, h2.1, h2.2, h1.2]
    constructor
    · rw [List.range'_append_1]
    · omega
end

mutual
theorem rxOfExpr_lang : (e : Expr) → (ins : List RxInput) → (pool : RxPool) → (ps : List Nat) →
    ((rxOfExpr e (ins, pool)).1.Lang ps ↔ e.denPos ins.length ps)
  | .term .. | .nonterm .. | .cmd .. => fun ins pool ps => by
    simp [rxOfExpr, Rx.Lang, Expr.denPos]
  | .sub c l s => fun ins pool ps => by
    rw [rxOfExpr_sub_fst]
    simp [Rx.Lang, Expr.denPos]
  | .seq cs s => fun ins pool ps => by
    rw [rxOfExpr_seq]
    exact rxOfExprL_langCat cs ins pool ps
  | .alt cs s => fun ins pool ps => by
    rw [rxOfExpr_alt]
    exact rxOfExprL_langOr cs ins pool ps
  | .fb cs s => fun ins pool ps => by
    rw [rxOfExpr_fb]
    exact rxOfExprL_langOr cs ins pool ps
  | .opt c s => fun ins pool ps => by
    rw [rxOfExpr_opt]
    simp only [Rx.Lang, RxL.LangOr, Expr.denPos, rxOfExpr_lang c ins pool ps, or_false]
    exact Or.comm
  | .many1 c s => fun ins pool ps => by
    rw [rxOfExpr_many1]
    simp only [Rx.Lang, Expr.denPos]
    constructor
    · rintro ⟨ws, hne, hw, hall⟩
      exact ⟨ws, hne, hw, fun u hu => (rxOfExpr_lang c ins pool u).1 (hall u hu)⟩
    · rintro ⟨ws, hne, hw, hall⟩
      exact ⟨ws, hne, hw, fun u hu => (rxOfExpr_lang c ins pool u).2 (hall u hu)⟩
  | .dd c d s => fun ins pool ps => by
    rw [rxOfExpr_dd]
    exact Iff.rfl
theorem rxOfExprL_langCat : (es : ExprL) → (ins : List RxInput) → (pool : RxPool) →
    (ps : List Nat) →
    (RxL.LangCat (rxOfExprL es (ins, pool)).1 ps ↔ es.denSeq ins.length ps)
  | .nil => fun ins pool ps => by
    rw [rxOfExprL_nil]
    exact Iff.rfl
  | .cons e es => fun ins pool ps => by
    rw [rxOfExprL_cons]
    have hlen := (rxOfExpr_num e ins pool).2
    have ih : ∀ v, RxL.LangCat (rxOfExprL es (rxOfExpr e (ins, pool)).2).1 v ↔
        es.denSeq (ins.length + e.leafCount) v := fun v => by
      have := rxOfExprL_langCat es (rxOfExpr e (ins, pool)).2.1 (rxOfExpr e (ins, pool)).2.2 v
      rwa [hlen] at this
    simp only [RxL.LangCat, ExprL.denSeq, rxOfExpr_lang e ins pool, ih]
theorem rxOfExprL_langOr : (es : ExprL) → (ins : List RxInput) → (pool : RxPool) →
    (ps : List Nat) →
    (RxL.LangOr (rxOfExprL es (ins, pool)).1 ps ↔ es.denAlt ins.length ps)
  | .nil => fun ins pool ps => by
    rw [rxOfExprL_nil]
    exact Iff.rfl
  | .cons e es => fun ins pool ps => by
    rw [rxOfExprL_cons]
    have hlen := (rxOfExpr_num e ins pool).2
    have h1 := rxOfExpr_lang e ins pool ps
    have h2 := rxOfExprL_langOr es (rxOfExpr e (ins, pool)).2.1 (rxOfExpr e (ins, pool)).2.2 ps
    simp only [pair_eta, hlen] at h2
    simp only [RxL.LangOr, ExprL.denAlt, h1, h2]
end

mutual
/-- no `alt`/`fb` node without alternatives (outside subwords, which are compiled separately) -/
def Expr.NoEmptyAlt : Expr → Prop
  | .term .. => True
  | .nonterm .. => True
  | .cmd .. => True
  | .seq cs _ => ExprL.NoEmptyAlt cs
  | .alt cs _ => cs ≠ .nil ∧ ExprL.NoEmptyAlt cs
  | .fb cs _ => cs ≠ .nil ∧ ExprL.NoEmptyAlt cs
  | .opt c _ => Expr.NoEmptyAlt c
  | .many1 c _ => Expr.NoEmptyAlt c
  | .dd .. => True
  | .sub .. => True
def ExprL.NoEmptyAlt : ExprL → Prop
  | .nil => True
  | .cons e es => Expr.NoEmptyAlt e ∧ ExprL.NoEmptyAlt es
end

mutual
theorem rxOfExpr_noEmptyOr : (e : Expr) → (st : List RxInput × RxPool) → e.NoEmptyAlt →
    (rxOfExpr e st).1.NoEmptyOr
  | .term .. | .nonterm .. | .cmd .. => fun ⟨ins, pool⟩ _ => by simp only [rxOfExpr, Rx.NoEmptyOr]
  | .sub c l s => fun ⟨ins, pool⟩ _ => by rw [rxOfExpr_sub_fst]; trivial
  | .seq cs s => fun st h => by rw [rxOfExpr_seq]; exact (rxOfExprL_noEmptyOr cs st h).1
  | .alt cs s => fun st h => by
    rw [rxOfExpr_alt]
    exact ⟨(rxOfExprL_noEmptyOr cs st h.2).2 h.1, (rxOfExprL_noEmptyOr cs st h.2).1⟩
  | .fb cs s => fun st h => by
    rw [rxOfExpr_fb]
    exact ⟨(rxOfExprL_noEmptyOr cs st h.2).2 h.1, (rxOfExprL_noEmptyOr cs st h.2).1⟩
  | .opt c s => fun st h => by
    rw [rxOfExpr_opt]
    exact ⟨nofun, rxOfExpr_noEmptyOr c st h, trivial, trivial⟩
  | .many1 c s => fun st h => by rw [rxOfExpr_many1]; exact rxOfExpr_noEmptyOr c st h
  | .dd c d s => fun st _ => by rw [rxOfExpr_dd]; trivial
theorem rxOfExprL_noEmptyOr : (es : ExprL) → (st : List RxInput × RxPool) → es.NoEmptyAlt →
    (rxOfExprL es st).1.NoEmptyOr ∧ (es ≠ .nil → (rxOfExprL es st).1 ≠ .nil)
  | .nil => fun st _ => by
    rw [rxOfExprL_nil]
    exact ⟨trivial, fun h => absurd rfl h⟩
  | .cons e es => fun st h => by
    rw [rxOfExprL_cons]
    exact ⟨⟨rxOfExpr_noEmptyOr e st h.1, (rxOfExprL_noEmptyOr es _ h.2).1⟩, fun _ => nofun⟩
end

theorem Regex.ofExpr_root (e : Expr) (pool : RxPool) :
    (Regex.ofExpr e pool).1.root = (rxOfExpr e ([], pool)).1 := by
  simp only [Regex.ofExpr]

theorem Regex.ofExpr_inputs (e : Expr) (pool : RxPool) :
    (Regex.ofExpr e pool).1.inputs = (rxOfExpr e ([], pool)).2.1 := by
  simp only [Regex.ofExpr]

theorem Regex.ofExpr_positions (e : Expr) (pool : RxPool) :
    (Regex.ofExpr e pool).1.root.positions = List.range' 0 e.leafCount := by
  rw [Regex.ofExpr_root]
  simpa using (rxOfExpr_num e [] pool).1

theorem Regex.ofExpr_endPos (e : Expr) (pool : RxPool) :
    (Regex.ofExpr e pool).1.endPos = e.leafCount := by
  rw [Regex.endPos, Regex.ofExpr_inputs]
  simpa using (rxOfExpr_num e [] pool).2

theorem Regex.ofExpr_linear (e : Expr) (pool : RxPool) :
    (Regex.ofExpr e pool).1.root.Linear ∧
    (Regex.ofExpr e pool).1.endPos ∉ (Regex.ofExpr e pool).1.root.positions ∧
    (Regex.ofExpr e pool).1.inputs.length = e.leafCount := by
  refine ⟨?_, ?_, ?_⟩
  · rw [Rx.Linear, Regex.ofExpr_positions]
    exact List.nodup_range'
  · rw [Regex.ofExpr_positions, Regex.ofExpr_endPos]
    simp [List.mem_range'_1]
  · exact Regex.ofExpr_endPos e pool

theorem Regex.ofExpr_positions_lt (e : Expr) (pool : RxPool) :
    ∀ q ∈ (Regex.ofExpr e pool).1.root.positions, q < (Regex.ofExpr e pool).1.endPos := by
  intro q hq
  rw [Regex.ofExpr_positions, List.mem_range'_1] at hq
  rw [Regex.ofExpr_endPos]
  omega

/-- **C02, raw automaton of the model**: for every work-list order, the automaton built from the
expression accepts exactly the label sequences of the expression's words (labels = `symOf` of the
leaf numbers). -/
theorem raw_automaton_correct (σ : Schedule) (e : Expr) (pool : RxPool) (symOf : Nat → Option Inp)
    (a : Auto)
    (hend : symOf e.leafCount = none)
    (h : buildAuto σ (Regex.ofExpr e pool).1 symOf = some a) :
    ∀ w : List Inp, a.acceptsInp w = true ↔ ∃ ps, e.denPos 0 ps ∧ ps.map symOf = w.map some := by
  intro w
  obtain ⟨hlin, hfresh, _⟩ := Regex.ofExpr_linear e pool
  have hendPos := Regex.ofExpr_endPos e pool
  obtain ⟨hfollow, hfirst⟩ := Regex.first_follow_le
    (fun q hq => Nat.le_of_lt (Regex.ofExpr_positions_lt e pool q hq))
  rw [buildAuto_correct σ _ symOf a (by rw [hendPos]; exact hend) hfollow hfirst h w]
  have hden : ∀ ps, (Regex.ofExpr e pool).1.root.Lang ps ↔ e.denPos 0 ps := by
    intro ps
    rw [Regex.ofExpr_root]
    exact rxOfExpr_lang e [] pool ps
  unfold PosAccepts
  constructor
  · rintro ⟨ps, cur, hpath, hcur, hne, hmap⟩
    exact ⟨ps, (hden ps).1 ((Regex.posPath_end_iff _ _ hlin hfresh ps hne).1 ⟨cur, hpath, hcur⟩),
      hmap⟩
  · rintro ⟨ps, hps, hmap⟩
    have hne : ∀ p ∈ ps, p ≠ (Regex.ofExpr e pool).1.endPos := by
      intro p hp heq
      have hmem : symOf p ∈ ps.map symOf := List.mem_map_of_mem hp
      rw [hmap, List.mem_map] at hmem
      obtain ⟨x, _, hx⟩ := hmem
      rw [heq, hendPos, hend] at hx
      cases hx
    obtain ⟨cur, hpath, hcur⟩ :=
      (Regex.posPath_end_iff _ _ hlin hfresh ps hne).2 ((hden ps).2 hps)
    exact ⟨ps, cur, hpath, hcur, hne, hmap⟩

end Complgen
