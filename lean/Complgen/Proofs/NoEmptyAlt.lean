/-
No `|` / `||` node without alternatives: the parser model never builds one (`parse_NEA`), the
validation passes never create one (`validate_NEA`, `validate_NoEmptyAlt`), hence the hypothesis
`Expr.NoEmptyAlt` of the minimality theorems holds of every validated parsed grammar
(`parse_validate_NoEmptyAlt`).

`Expr.NoEmptyAlt` (Proofs/RxOfExpr.lean) does not look inside `.dd` and `.sub`; the invariant
carried through the passes is the stronger `Expr.NEA`, which does.
-/
import Complgen.Proofs.RxOfExpr
import Complgen.Proofs.Ladder
import Complgen.Proofs.Validate
namespace Complgen

mutual
def Expr.NEA : Expr → Prop
  | .term .. => True
  | .nonterm .. => True
  | .cmd .. => True
  | .seq cs _ => ExprL.NEA cs
  | .alt cs _ => cs ≠ .nil ∧ ExprL.NEA cs
  | .fb cs _ => cs ≠ .nil ∧ ExprL.NEA cs
  | .opt c _ => Expr.NEA c
  | .many1 c _ => Expr.NEA c
  | .dd c _ _ => Expr.NEA c
  | .sub c _ _ => Expr.NEA c
def ExprL.NEA : ExprL → Prop
  | .nil => True
  | .cons e es => Expr.NEA e ∧ ExprL.NEA es
end

mutual
theorem Expr.NEA.noEmptyAlt : ∀ e : Expr, e.NEA → e.NoEmptyAlt
  | .term .. | .nonterm .. | .cmd .. | .dd .. | .sub .. => fun _ => trivial
  | .opt c _ | .many1 c _ => Expr.NEA.noEmptyAlt c
  | .seq cs _ => ExprL.NEA.noEmptyAlt cs
  | .alt cs _ | .fb cs _ => fun h => ⟨h.1, ExprL.NEA.noEmptyAlt cs h.2⟩
theorem ExprL.NEA.noEmptyAlt : ∀ es : ExprL, es.NEA → es.NoEmptyAlt
  | .nil => id
  | .cons e es => fun h => ⟨Expr.NEA.noEmptyAlt e h.1, ExprL.NEA.noEmptyAlt es h.2⟩
end

theorem ExprL.NEA_ofList : ∀ l : List Expr, (∀ e ∈ l, e.NEA) → (ExprL.ofList l).NEA
  | [], _ => by simp only [ExprL.ofList, ExprL.NEA]
  | e :: es, h => by
    simp only [ExprL.ofList, ExprL.NEA]
    exact ⟨h e List.mem_cons_self, ExprL.NEA_ofList es fun x hx => h x (List.mem_cons_of_mem _ hx)⟩

theorem ExprL.ofList_ne_nil {l : List Expr} (h : l ≠ []) : ExprL.ofList l ≠ .nil := by
  cases l with
  | nil => exact absurd rfl h
  | cons e es => simp [ExprL.ofList]

def Stmt.bodyExpr : Stmt → Expr
  | .call _ _ e => e
  | .defn _ _ _ e => e

namespace Check

/-- the `alt`/`fb` arm of every pass: the pass keeps the list of alternatives nonempty and `NEA` -/
theorem NEA_alt {cs cs' : ExprL} (h : cs ≠ .nil ∧ cs.NEA) (ih : cs.NEA → (cs ≠ .nil → cs' ≠ .nil) ∧ cs'.NEA) :
    cs' ≠ .nil ∧ cs'.NEA := ⟨(ih h.2).1 h.1, (ih h.2).2⟩

mutual
theorem flatten_NEA : ∀ e : Expr, e.NEA → (flatten e).NEA
  | .term .. | .nonterm .. | .cmd .. => id
  | .sub c _ _ | .opt c _ | .many1 c _ | .dd c _ _ => flatten_NEA c
  | .seq cs _ => fun h => (flattenL_NEA cs h).2
  | .alt cs _ | .fb cs _ => fun h => NEA_alt h (flattenL_NEA cs)
theorem flattenL_NEA : ∀ es : ExprL, es.NEA → (es ≠ .nil → flattenL es ≠ .nil) ∧ (flattenL es).NEA
  | .nil => fun h => ⟨id, h⟩
  | .cons e es => fun h => ⟨fun _ => nofun, flatten_NEA e h.1, (flattenL_NEA es h.2).2⟩
end

mutual
theorem collapse_NEA : ∀ e : Expr, e.NEA → (collapse e).NEA
  | .term .. | .nonterm .. | .cmd .. => id
  | .sub c _ _ => flatten_NEA c
  | .opt c _ | .many1 c _ | .dd c _ _ => collapse_NEA c
  | .seq cs _ => fun h => (collapseL_NEA cs h).2
  | .alt cs _ | .fb cs _ => fun h => NEA_alt h (collapseL_NEA cs)
theorem collapseL_NEA : ∀ es : ExprL, es.NEA → (es ≠ .nil → collapseL es ≠ .nil) ∧ (collapseL es).NEA
  | .nil => fun h => ⟨id, h⟩
  | .cons e es => fun h => ⟨fun _ => nofun, collapse_NEA e h.1, (collapseL_NEA es h.2).2⟩
end

mutual
theorem propagate_NEA : ∀ (e : Expr) (lvl : Nat), e.NEA → (propagate e lvl).NEA
  | .term .. | .nonterm .. | .cmd .. | .dd .. => fun _ => id
  | .sub c _ _ | .opt c _ | .many1 c _ => propagate_NEA c
  | .seq cs _ => fun lvl h => (propagateL_NEA cs lvl h).2
  | .alt cs _ => fun lvl h => NEA_alt h (propagateL_NEA cs lvl)
  | .fb cs _ => fun _ h => NEA_alt h (propagateFb_NEA cs 0)
theorem propagateL_NEA : ∀ (es : ExprL) (lvl : Nat), es.NEA →
    (es ≠ .nil → propagateL es lvl ≠ .nil) ∧ (propagateL es lvl).NEA
  | .nil => fun _ h => ⟨id, h⟩
  | .cons e es => fun lvl h => ⟨fun _ => nofun, propagate_NEA e lvl h.1, (propagateL_NEA es lvl h.2).2⟩
theorem propagateFb_NEA : ∀ (es : ExprL) (i : Nat), es.NEA →
    (es ≠ .nil → propagateFb es i ≠ .nil) ∧ (propagateFb es i).NEA
  | .nil => fun _ h => ⟨id, h⟩
  | .cons e es => fun i h => ⟨fun _ => nofun, propagate_NEA e i h.1, (propagateFb_NEA es (i + 1) h.2).2⟩
end

mutual
theorem distr_NEA : ∀ (e : Expr) (p : Option String), e.NEA → (distr e p).1.NEA
  | .term _ d _ _ => fun p _ => by cases d <;> cases p <;> trivial
  | .nonterm .. | .cmd .. => fun _ => id
  | .dd c d _ => fun _ => distr_NEA c (some d)
  | .opt c _ | .many1 c _ | .sub c _ _ => distr_NEA c
  | .seq cs _ => fun p h => (distrSeq_NEA cs p h).2
  | .fb cs _ => fun p h => NEA_alt h (distrSeq_NEA cs p)
  | .alt cs _ => fun p h => NEA_alt h (distrAlt_NEA cs p)
theorem distrSeq_NEA : ∀ (es : ExprL) (p : Option String), es.NEA →
    (es ≠ .nil → (distrSeq es p).1 ≠ .nil) ∧ (distrSeq es p).1.NEA
  | .nil => fun _ h => ⟨id, h⟩
  | .cons e es => fun p h => ⟨fun _ => nofun, distr_NEA e p h.1, (distrSeq_NEA es (distr e p).2 h.2).2⟩
theorem distrAlt_NEA : ∀ (es : ExprL) (p : Option String), es.NEA →
    (es ≠ .nil → (distrAlt es p).1 ≠ .nil) ∧ (distrAlt es p).1.NEA
  | .nil => fun _ h => ⟨id, h⟩
  | .cons e es => fun p h => ⟨fun _ => nofun, distr_NEA e p h.1, (distrAlt_NEA es p h.2).2⟩
end

theorem distribute_NEA (e : Expr) (h : e.NEA) : (distribute e).NEA := distr_NEA e none h

mutual
theorem specialize_NEA (sh : Shell) (fbs : AList String) (defined : List String) :
    ∀ (e : Expr) (b : Book), e.NEA → (specialize sh fbs defined e b).1.NEA
  | .term .. | .cmd .. | .dd .. => fun _ => id
  | .nonterm n l s => fun b _ => by
    simp only [specialize]
    split <;> trivial
  | .sub c _ _ | .opt c _ | .many1 c _ => specialize_NEA sh fbs defined c
  | .seq cs _ => fun b h => (specializeL_NEA sh fbs defined cs b h).2
  | .alt cs _ | .fb cs _ => fun b h => NEA_alt h (specializeL_NEA sh fbs defined cs b)
theorem specializeL_NEA (sh : Shell) (fbs : AList String) (defined : List String) :
    ∀ (es : ExprL) (b : Book), es.NEA →
      (es ≠ .nil → (specializeL sh fbs defined es b).1 ≠ .nil) ∧ (specializeL sh fbs defined es b).1.NEA
  | .nil => fun _ h => ⟨id, h⟩
  | .cons e es => fun b h =>
    ⟨fun _ => nofun, specialize_NEA sh fbs defined e b h.1, (specializeL_NEA sh fbs defined es _ h.2).2⟩
end

def DefsNEA (defs : AList (Span × Expr)) : Prop := ∀ p ∈ defs, p.2.2.NEA

theorem DefsNEA.get {defs : AList (Span × Expr)} (h : DefsNEA defs) {n : String} {s : Span} {e : Expr}
    (hg : defs.get? n = some (s, e)) : e.NEA :=
  h _ (mem_of_get?_some defs n (s, e) hg)

mutual
theorem resolve_NEA (defs : AList (Span × Expr)) (hd : DefsNEA defs) :
    ∀ (e : Expr) (u : AList Span), e.NEA → (resolve defs e u).1.NEA
  | .term .. | .cmd .. | .dd .. => fun _ => id
  | .nonterm n l s => fun u _ => by
    simp only [resolve]
    split
    · next sp rhs hg => exact hd.get hg
    · trivial
  | .sub c _ _ | .opt c _ | .many1 c _ => resolve_NEA defs hd c
  | .seq cs _ => fun u h => (resolveL_NEA defs hd cs u h).2
  | .alt cs _ | .fb cs _ => fun u h => NEA_alt h (resolveL_NEA defs hd cs u)
theorem resolveL_NEA (defs : AList (Span × Expr)) (hd : DefsNEA defs) :
    ∀ (es : ExprL) (u : AList Span), es.NEA →
      (es ≠ .nil → (resolveL defs es u).1 ≠ .nil) ∧ (resolveL defs es u).1.NEA
  | .nil => fun _ h => ⟨id, h⟩
  | .cons e es => fun u h => ⟨fun _ => nofun, resolve_NEA defs hd e u h.1, (resolveL_NEA defs hd es _ h.2).2⟩
end

theorem DefsNEA.nil : DefsNEA [] := fun _ h => by cases h

theorem DefsNEA.append {a b : AList (Span × Expr)} (ha : DefsNEA a) (hb : DefsNEA b) : DefsNEA (a ++ b) :=
  fun p hp => (List.mem_append.mp hp).elim (ha p) (hb p)

theorem plainDefs_NEA (g : Grammar) (hg : ∀ st ∈ g, (Stmt.bodyExpr st).NEA) :
    ∀ x ∈ plainDefs g, x.2.2.NEA :=
  fun (n, s, e) hx => hg _ ((mem_plainDefs g n s e).mp hx)

theorem callsOf_NEA (g : Grammar) (hg : ∀ st ∈ g, (Stmt.bodyExpr st).NEA) :
    ∀ x ∈ callsOf g, x.2.2.NEA :=
  fun (n, s, e) hx => hg _ ((mem_callsOf g n s e).mp hx)

/-- the call variants joined: one variant is taken as it is, two or more become an `.alt`; no
variant at all would give an empty `.alt` (`topExpr_no_calls`), which `commandOf` excludes -/
theorem topExpr_NEA (g : Grammar) (hg : ∀ st ∈ g, (Stmt.bodyExpr st).NEA) (hne : callsOf g ≠ []) :
    (topExpr g).NEA := by
  have hc := callsOf_NEA g hg
  unfold topExpr
  split
  · next n s e heq =>
    exact hc (n, s, e) (by rw [heq]; exact List.mem_singleton.mpr rfl)
  · simp only [Expr.NEA]
    refine ⟨ExprL.ofList_ne_nil (by simpa using hne), ExprL.NEA_ofList _ ?_⟩
    intro e he
    obtain ⟨x, hx, rfl⟩ := List.mem_map.mp he
    exact hc x hx

theorem topExpr_no_calls : topExpr [] = .alt .nil default := by
  rfl

theorem commandOf_ok_calls (g : Grammar) (c : String) (h : commandOf g = .ok c) : callsOf g ≠ [] := by
  intro he
  unfold commandOf at h
  rw [he] at h
  simp at h

theorem specFold_NEA (sh : Shell) (fbs : AList String) (defined : List String) :
    ∀ (l : List (String × Span × Expr)) (acc : AList (Span × Expr) × Book),
      (∀ x ∈ l, x.2.2.NEA) → DefsNEA acc.1 → DefsNEA (l.foldl (specStep sh fbs defined) acc).1
  | [], acc, _, ha => ha
  | x :: rest, acc, hl, ha => by
    simp only [List.foldl_cons]
    refine specFold_NEA sh fbs defined rest _ (fun y hy => hl y (List.mem_cons_of_mem _ hy)) ?_
    unfold specStep
    refine ha.append ?_
    intro p hp
    simp only [List.mem_singleton] at hp
    subst hp
    exact specialize_NEA sh fbs defined x.2.2 acc.2 (hl x List.mem_cons_self)

theorem resStep_NEA (acc : AList (Span × Expr) × AList Span) (n : String) (ha : DefsNEA acc.1) :
    DefsNEA (resStep acc n).1 := by
  unfold resStep
  cases hg : AList.get? acc.1 n with
  | none => exact ha
  | some v =>
    obtain ⟨s, e⟩ := v
    simp only
    intro p hp
    obtain ⟨q, hq, rfl⟩ := List.mem_map.mp hp
    by_cases hqn : (q.1 == n) = true
    · simp only [hqn, if_true]
      exact resolve_NEA acc.1 ha e acc.2 (ha.get hg)
    · simp only [hqn]
      exact ha q hq

theorem resFold_NEA : ∀ (order : List String) (acc : AList (Span × Expr) × AList Span),
    DefsNEA acc.1 → DefsNEA (order.foldl resStep acc).1
  | [], _, ha => ha
  | n :: rest, acc, ha => by
    simp only [List.foldl_cons]
    exact resFold_NEA rest _ (resStep_NEA acc n ha)

theorem finishValidate_NEA (g : Grammar) (sh : Shell) (command : String) (defs0 : AList (Span × Expr))
    (specs : AList UserSpec) (fbs : AList String) (v : Valid)
    (hg : ∀ st ∈ g, (Stmt.bodyExpr st).NEA) (hne : callsOf g ≠ []) (hd : DefsNEA defs0)
    (h : finishValidate g sh command defs0 specs fbs = .ok v) : v.expr.NEA := by
  obtain ⟨defsD, r1, r2, order, r3, hD, hr1, hr2, _, hr3, _, rfl⟩ :=
    finishValidate_ok g sh command defs0 specs fbs v h
  have hDn : ∀ x ∈ defsD, x.2.2.NEA := by
    rw [← hD]
    intro x hx
    obtain ⟨y, hy, rfl⟩ := List.mem_map.mp hx
    exact distribute_NEA _ (hd y hy)
  have h1 := specFold_NEA sh fbs (defsD.map (·.1)) defsD ([], ⟨specs, defsD.map fun x => (x.1, x.2.1)⟩) hDn
    DefsNEA.nil
  rw [hr1] at h1
  have h2 := specialize_NEA sh fbs (defsD.map (·.1)) (distribute (topExpr g)) r1.2
    (distribute_NEA _ (topExpr_NEA g hg hne))
  rw [hr2] at h2
  have h3 := resFold_NEA order (r1.1, r2.2.unused) h1
  rw [hr3] at h3
  exact propagate_NEA _ 0 (collapse_NEA _ (resolve_NEA r3.1 h3 r2.1 r3.2 h2))

/-- **Validation creates no empty alternation**: if no statement of the grammar has one, the
validated expression has none (not even inside words and described groups). -/
theorem validate_NEA (g : Grammar) (sh : Shell) (v : Valid) (hg : ∀ st ∈ g, (Stmt.bodyExpr st).NEA)
    (h : validate g sh = .ok v) : v.expr.NEA := by
  obtain ⟨command, specs, fbs, hcmd, _, _, h⟩ := validate_ok_inv g sh v h
  exact finishValidate_NEA g sh command _ specs fbs v hg (commandOf_ok_calls g command hcmd) (plainDefs_NEA g hg) h

theorem validate_NoEmptyAlt (g : Grammar) (sh : Shell) (v : Valid) (hg : ∀ st ∈ g, (Stmt.bodyExpr st).NEA)
    (h : validate g sh = .ok v) : v.expr.NoEmptyAlt :=
  Expr.NEA.noEmptyAlt _ (validate_NEA g sh v hg h)

/-- a hand-built grammar (no parser output): one call variant whose body is an `.alt` without
alternatives -/
def emptyAltGrammar : Grammar := [.call "c" ⟨1, 1, 2⟩ (.alt .nil ⟨1, 3, 4⟩)]

/-- the hypothesis of `validate_NoEmptyAlt` is needed: validation accepts `emptyAltGrammar` and keeps
the empty alternation -/
theorem validate_keeps_empty_alt :
    ∃ v, validate emptyAltGrammar .bash = .ok v ∧ ¬ v.expr.NoEmptyAlt := by
  refine ⟨⟨"c", .alt .nil ⟨1, 3, 4⟩, [], [], []⟩, by rfl, ?_⟩
  simp [Expr.NoEmptyAlt]

end Check

namespace Parse

def AllNEA (l : List Expr) : Prop := ∀ e ∈ l, e.NEA

theorem AllNEA.snoc {l : List Expr} {e : Expr} (hl : AllNEA l) (he : e.NEA) : AllNEA (l ++ [e]) := by
  intro x hx
  rcases List.mem_append.mp hx with hx | hx
  · exact hl x hx
  · simp only [List.mem_singleton] at hx; subst hx; exact he

theorem AllNEA.single {e : Expr} (he : e.NEA) : AllNEA [e] := by
  intro x hx
  simp only [List.mem_singleton] at hx; subst hx; exact he

/-- what is proved of every level of the ladder, for one amount of fuel -/
structure Levels (f : Nat) : Prop where
  unary : ∀ s s' e, unary f s = some (s', e) → e.NEA
  optional : ∀ s s' e, optional f s = some (s', e) → e.NEA
  parenthesized : ∀ s s' e, parenthesized f s = some (s', e) → e.NEA
  subwordLoop : ∀ s acc, AllNEA acc → AllNEA (subwordLoop f s acc).2
  subwordSeq : ∀ s s' e, subwordSeq f s = some (s', e) → e.NEA
  sseod : ∀ s s' e, sseod f s = some (s', e) → e.NEA
  sequenceLoop : ∀ s acc, AllNEA acc → AllNEA (sequenceLoop f s acc).2
  sequence : ∀ s s' e, sequence f s = some (s', e) → e.NEA
  alternativeLoop : ∀ s acc, AllNEA acc → acc ≠ [] →
    AllNEA (alternativeLoop f s acc).2 ∧ (alternativeLoop f s acc).2 ≠ []
  alternative : ∀ s s' e, alternative f s = some (s', e) → e.NEA
  fallbackLoop : ∀ s acc, AllNEA acc → acc ≠ [] →
    AllNEA (fallbackLoop f s acc).2 ∧ (fallbackLoop f s acc).2 ≠ []
  fallback : ∀ s s' e, fallback f s = some (s', e) → e.NEA

theorem levels_zero : Levels 0 where
  unary := by intro s s' e h; rw [unary_zero] at h; cases h
  optional := by intro s s' e h; rw [optional_zero] at h; cases h
  parenthesized := by intro s s' e h; rw [parenthesized_zero] at h; cases h
  subwordLoop := by intro s acc h; rw [subwordLoop_zero]; exact h
  subwordSeq := by intro s s' e h; rw [subwordSeq_zero] at h; cases h
  sseod := by intro s s' e h; rw [sseod_zero] at h; cases h
  sequenceLoop := by intro s acc h; rw [sequenceLoop_zero]; exact h
  sequence := by intro s s' e h; rw [sequence_zero] at h; cases h
  alternativeLoop := by intro s acc h hne; rw [alternativeLoop_zero]; exact ⟨h, hne⟩
  alternative := by intro s s' e h; rw [alternative_zero] at h; cases h
  fallbackLoop := by intro s acc h hne; rw [fallbackLoop_zero]; exact ⟨h, hne⟩
  fallback := by intro s s' e h; rw [fallback_zero] at h; cases h

theorem baseP_NEA (f : Nat) (L : Levels f) (s s' : PState) (e : Expr) (h : baseP f s = some (s', e)) :
    e.NEA := by
  unfold baseP at h
  split at h
  · simp only [Option.some.injEq, Prod.mk.injEq] at h
    obtain ⟨_, rfl⟩ := h
    simp only [Expr.NEA]
  · split at h
    · next r hr =>
      simp only [Option.some.injEq] at h
      subst h
      exact L.optional s s' e hr
    · split at h
      · next r hr =>
        simp only [Option.some.injEq] at h
        subst h
        exact L.parenthesized s s' e hr
      · split at h
        · simp only [Option.some.injEq, Prod.mk.injEq] at h
          obtain ⟨_, rfl⟩ := h
          simp only [Expr.NEA]
        · split at h
          · simp only [Option.some.injEq, Prod.mk.injEq] at h
            obtain ⟨_, rfl⟩ := h
            simp only [Expr.NEA]
          · cases h

/-- how `subwordSeq`, `sequence`, `alternative` and `fallback` end: a single element is returned as it is,
several are wrapped into a node -/
theorem single_or_wrapped {l : List Expr} {s2 : PState} {w : Expr} {r : PState × Expr}
    (h : (match l with | [e] => some (s2, e) | _ => some (s2, w)) = some r) (hl : AllNEA l) (hw : w.NEA) :
    r.2.NEA := by
  split at h
  · cases h; exact hl _ (List.mem_singleton.mpr rfl)
  · cases h; exact hw

theorem levels_succ (f : Nat) (L : Levels f) : Levels (f + 1) where
  unary := by
    intro s s' e h
    rw [unary_succ] at h
    cases hb : baseP f s with
    | none => rw [hb] at h; cases h
    | some r =>
      obtain ⟨s1, e1⟩ := r
      rw [hb] at h
      simp only at h
      have h1 := baseP_NEA f L s s1 e1 hb
      split at h
      · simp only [Option.some.injEq, Prod.mk.injEq] at h
        obtain ⟨_, rfl⟩ := h
        simp only [Expr.NEA]; exact h1
      · simp only [Option.some.injEq, Prod.mk.injEq] at h
        obtain ⟨_, rfl⟩ := h
        exact h1
  optional := by
    intro s s' e h
    rw [optional_succ] at h
    split at h
    · cases h
    · split at h
      · cases h
      · next s2 e2 hf =>
        split at h
        · cases h
        · simp only [Option.some.injEq, Prod.mk.injEq] at h
          obtain ⟨_, rfl⟩ := h
          simp only [Expr.NEA]
          exact L.fallback _ _ _ hf
  parenthesized := by
    intro s s' e h
    rw [parenthesized_succ] at h
    split at h
    · cases h
    · split at h
      · cases h
      · next s2 e2 hf =>
        split at h
        · cases h
        · simp only [Option.some.injEq, Prod.mk.injEq] at h
          obtain ⟨_, rfl⟩ := h
          exact L.fallback _ _ _ hf
  subwordLoop := by
    intro s acc hacc
    rw [subwordLoop_succ]
    split
    · next s1 e1 hu => exact L.subwordLoop _ _ (hacc.snoc (L.unary _ _ _ hu))
    · exact hacc
  subwordSeq := by
    intro s s' e h
    rw [subwordSeq_succ] at h
    split at h
    · cases h
    · next s1 left hu =>
      have hl := L.subwordLoop s1 [left] (AllNEA.single (L.unary _ _ _ hu))
      cases hloop : Parse.subwordLoop f s1 [left] with
      | mk s2 factors =>
        rw [hloop] at h hl
        simp only at h hl
        refine single_or_wrapped h hl (ExprL.NEA_ofList _ ?_)
        intro x hx
        obtain ⟨y, hy, rfl⟩ := List.mem_map.mp hx
        exact Check.flatten_NEA y (hl y hy)
  sseod := by
    intro s s' e h
    rw [sseod_succ] at h
    split at h
    · cases h
    · next s1 e1 hs =>
      have h1 := L.subwordSeq _ _ _ hs
      split at h
      · simp only [Option.some.injEq, Prod.mk.injEq] at h
        obtain ⟨_, rfl⟩ := h
        simp only [Expr.NEA]; exact h1
      · simp only [Option.some.injEq, Prod.mk.injEq] at h
        obtain ⟨_, rfl⟩ := h
        exact h1
  sequenceLoop := by
    intro s acc hacc
    rw [sequenceLoop_succ]
    split
    · exact hacc
    · split
      · next s2 e2 hu => exact L.sequenceLoop _ _ (hacc.snoc (L.sseod _ _ _ hu))
      · exact hacc
  sequence := by
    intro s s' e h
    rw [sequence_succ] at h
    split at h
    · cases h
    · next s1 left hu =>
      have hl := L.sequenceLoop s1 [left] (AllNEA.single (L.sseod _ _ _ hu))
      cases hloop : Parse.sequenceLoop f s1 [left] with
      | mk s2 factors =>
        rw [hloop] at h hl
        simp only at h hl
        exact single_or_wrapped h hl (ExprL.NEA_ofList _ hl)
  alternativeLoop := by
    intro s acc hacc hne
    rw [alternativeLoop_succ]
    split
    · exact ⟨hacc, hne⟩
    · split
      · next s2 e2 hu =>
        exact L.alternativeLoop _ _ (hacc.snoc (L.sequence _ _ _ hu)) (by simp)
      · exact ⟨hacc, hne⟩
  alternative := by
    intro s s' e h
    rw [alternative_succ] at h
    split at h
    · cases h
    · next s1 left hu =>
      have hl := L.alternativeLoop s1 [left] (AllNEA.single (L.sequence _ _ _ hu)) (by simp)
      cases hloop : Parse.alternativeLoop f s1 [left] with
      | mk s2 elems =>
        rw [hloop] at h hl
        simp only at h hl
        exact single_or_wrapped h hl.1 ⟨ExprL.ofList_ne_nil hl.2, ExprL.NEA_ofList _ hl.1⟩
  fallbackLoop := by
    intro s acc hacc hne
    rw [fallbackLoop_succ]
    split
    · exact ⟨hacc, hne⟩
    · split
      · next s2 e2 hu =>
        exact L.fallbackLoop _ _ (hacc.snoc (L.alternative _ _ _ hu)) (by simp)
      · exact ⟨hacc, hne⟩
  fallback := by
    intro s s' e h
    rw [fallback_succ] at h
    split at h
    · cases h
    · next s1 left hu =>
      have hl := L.fallbackLoop s1 [left] (AllNEA.single (L.alternative _ _ _ hu)) (by simp)
      cases hloop : Parse.fallbackLoop f s1 [left] with
      | mk s2 fbs =>
        rw [hloop] at h hl
        simp only at h hl
        exact single_or_wrapped h hl.1 ⟨ExprL.ofList_ne_nil hl.2, ExprL.NEA_ofList _ hl.1⟩

theorem levels : ∀ f : Nat, Levels f
  | 0 => levels_zero
  | f + 1 => levels_succ f (levels f)

theorem fallback_NEA (fuel : Nat) (s s' : PState) (e : Expr) (h : fallback fuel s = some (s', e)) : e.NEA :=
  (levels fuel).fallback s s' e h
theorem alternative_NEA (fuel : Nat) (s s' : PState) (e : Expr) (h : alternative fuel s = some (s', e)) :
    e.NEA := (levels fuel).alternative s s' e h
theorem sequence_NEA (fuel : Nat) (s s' : PState) (e : Expr) (h : sequence fuel s = some (s', e)) : e.NEA :=
  (levels fuel).sequence s s' e h
theorem sseod_NEA (fuel : Nat) (s s' : PState) (e : Expr) (h : sseod fuel s = some (s', e)) : e.NEA :=
  (levels fuel).sseod s s' e h
theorem subwordSeq_NEA (fuel : Nat) (s s' : PState) (e : Expr) (h : subwordSeq fuel s = some (s', e)) :
    e.NEA := (levels fuel).subwordSeq s s' e h
theorem unary_NEA (fuel : Nat) (s s' : PState) (e : Expr) (h : unary fuel s = some (s', e)) : e.NEA :=
  (levels fuel).unary s s' e h

theorem callVariant_NEA (fuel : Nat) (s s' : PState) (st : Stmt) (h : callVariant fuel s = some (s', st)) :
    (Stmt.bodyExpr st).NEA := by
  unfold callVariant at h
  simp only [Option.bind_eq_bind, Option.bind_eq_some_iff] at h
  obtain ⟨a, _, a1, _, a2, hf, a3, _, h⟩ := h
  simp only [Option.some.injEq, Prod.mk.injEq] at h
  obtain ⟨_, rfl⟩ := h
  obtain ⟨s2, e⟩ := a2
  exact fallback_NEA fuel _ _ _ hf

theorem nontermDef_NEA (fuel : Nat) (s s' : PState) (st : Stmt) (h : nontermDefStatement fuel s = some (s', st)) :
    (Stmt.bodyExpr st).NEA := by
  unfold nontermDefStatement at h
  simp only [Option.bind_eq_bind] at h
  split at h
  · simp only [Option.bind_some, Option.bind_eq_some_iff] at h
    obtain ⟨s3, _, a2, hf, s5, _, h⟩ := h
    simp only [Option.some.injEq, Prod.mk.injEq] at h
    obtain ⟨_, rfl⟩ := h
    obtain ⟨s4, e⟩ := a2
    exact fallback_NEA fuel _ _ _ hf
  · split at h
    · simp only [Option.bind_some, Option.bind_eq_some_iff] at h
      obtain ⟨s3, _, a2, hf, s5, _, h⟩ := h
      simp only [Option.some.injEq, Prod.mk.injEq] at h
      obtain ⟨_, rfl⟩ := h
      obtain ⟨s4, e⟩ := a2
      exact fallback_NEA fuel _ _ _ hf
    · simp only [Option.bind_none] at h
      cases h

theorem statement_NEA (fuel : Nat) (s s' : PState) (st : Stmt) (h : statement fuel s = some (s', st)) :
    (Stmt.bodyExpr st).NEA := by
  unfold statement at h
  split at h
  · next s1 st1 ho =>
    simp only [Option.some.injEq, Prod.mk.injEq] at h
    obtain ⟨_, rfl⟩ := h
    cases hc : callVariant fuel s with
    | some r =>
      rw [hc] at ho
      simp only [Option.orElse_some, Option.some.injEq] at ho
      subst ho
      exact callVariant_NEA fuel s _ _ hc
    | none =>
      rw [hc] at ho
      simp only [Option.orElse_none] at ho
      exact nontermDef_NEA fuel s _ _ ho
  · cases h

theorem statements_NEA : ∀ (n fuel : Nat) (s : PState) (acc : List Stmt),
    (∀ st ∈ acc, (Stmt.bodyExpr st).NEA) → ∀ st ∈ (statements n fuel s acc).2, (Stmt.bodyExpr st).NEA
  | 0, _, _, _, hacc => by simpa only [statements] using hacc
  | n + 1, fuel, s, acc, hacc => by
    unfold statements
    split
    · next s1 st1 hs =>
      split
      · refine statements_NEA n fuel s1 (acc ++ [st1]) ?_
        intro x hx
        rcases List.mem_append.mp hx with hx | hx
        · exact hacc x hx
        · simp only [List.mem_singleton] at hx; subst hx; exact statement_NEA fuel s s1 _ hs
      · exact hacc
    · exact hacc

/-- **The parser never builds an alternation without alternatives.** -/
theorem parse_NEA (input : List Char) (g : Grammar) (h : parse input = .ok g) :
    ∀ st ∈ g, (Stmt.bodyExpr st).NEA := by
  unfold parse at h
  simp only at h
  split at h
  · simp only [Except.ok.injEq] at h
    subst h
    exact statements_NEA _ _ _ [] (fun _ hx => by cases hx)
  · cases h

end Parse

/-- **A parsed grammar that validates has no empty alternation**: the hypothesis of
`minimised_built_is_minimal` (Props/C03.lean) holds of everything the front end lets through. -/
theorem parse_validate_NEA (input : List Char) (g : Grammar) (sh : Shell) (v : Check.Valid)
    (hp : Parse.parse input = .ok g) (hv : Check.validate g sh = .ok v) : v.expr.NEA :=
  Check.validate_NEA g sh v (Parse.parse_NEA input g hp) hv

theorem parse_validate_NoEmptyAlt (input : List Char) (g : Grammar) (sh : Shell) (v : Check.Valid)
    (hp : Parse.parse input = .ok g) (hv : Check.validate g sh = .ok v) : v.expr.NoEmptyAlt :=
  Expr.NEA.noEmptyAlt _ (parse_validate_NEA input g sh v hp hv)

end Complgen
