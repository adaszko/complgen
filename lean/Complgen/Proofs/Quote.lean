/-
A string constant written through a chain of replacements (`applyChain`) is read back verbatim by the
string reader of the language it is written in (`Dialect.decode`; C07: the four shells, C16: DOT).
The chain replaces character by character, so it distributes over `++` (`applyChain_append`) and the
reader can be followed one source character at a time: it is enough that each character the chain or
the dialect treats specially is written so that it reads back as itself (`okChar`, a finite check:
`chainOK`), and `chain_roundtrip` lifts that to every string.
-/
import Complgen.Model.Quote
namespace Complgen.Quote

theorem rep1_append (p : Char) (r a b : List Char) :
    rep1 p r (a ++ b) = rep1 p r a ++ rep1 p r b := by
  simp [rep1, List.flatMap_append]

theorem applyChain_append (ch : Chain) (a b : List Char) :
    applyChain ch (a ++ b) = applyChain ch a ++ applyChain ch b := by
  induction ch generalizing a b with
  | nil => simp [applyChain]
  | cons pr ch ih =>
    simp only [applyChain, List.foldl_cons] at ih ⊢
    rw [rep1_append]
    exact ih _ _

theorem applyChain_nil (ch : Chain) : applyChain ch [] = [] := by
  induction ch with
  | nil => simp [applyChain]
  | cons pr ch ih => simpa [applyChain, rep1] using ih

theorem applyChain_cons (ch : Chain) (c : Char) (s : List Char) :
    applyChain ch (c :: s) = applyChain ch [c] ++ applyChain ch s := by
  have := applyChain_append ch [c] s
  simpa using this

theorem applyChain_single_of_not_mem (ch : Chain) (c : Char) (h : c ∉ ch.map (·.1)) :
    applyChain ch [c] = [c] := by
  induction ch with
  | nil => simp [applyChain]
  | cons pr ch ih =>
    simp only [List.map_cons, List.mem_cons, not_or] at h
    simp only [applyChain, List.foldl_cons]
    have : rep1 pr.1 pr.2 [c] = [c] := by
      simp [rep1, h.1]
    rw [this]
    exact ih h.2

theorem decode_plain (D : Dialect) (c : Char) (t : List Char) (h1 : c ≠ D.esc)
    (h2 : c ∉ D.special) : D.decode (c :: t) = (D.decode t).map (c :: ·) := by
  cases t with
  | nil => simp [Dialect.decode, h1, h2]
  | cons d rest => simp [Dialect.decode, h1, h2]

theorem decode_escaped (D : Dialect) (d : Char) (x : List Char) (t : List Char)
    (h : D.escMap d = some x) : D.decode (D.esc :: d :: t) = (D.decode t).map (x ++ ·) := by
  simp [Dialect.decode, h]

theorem decode_okChar (D : Dialect) (ch : Chain) (c : Char) (t : List Char)
    (h : okChar D ch c = true) :
    D.decode (applyChain ch [c] ++ t) = (D.decode t).map (c :: ·) := by
  unfold okChar at h
  simp only [Bool.or_eq_true, Bool.and_eq_true, beq_iff_eq, bne_iff_ne, ne_eq,
    Bool.not_eq_true', List.contains_eq_mem, decide_eq_false_iff_not] at h
  rcases h with ⟨⟨he, hesc⟩, hsp⟩ | h
  · rw [he]
    exact decode_plain D c t hesc hsp
  · generalize applyChain ch [c] = e at h
    match e, h with
    | [x, d], h =>
      simp only [Bool.and_eq_true, Bool.or_eq_true, beq_iff_eq, Bool.not_eq_true'] at h
      obtain ⟨rfl, hm | ⟨⟨hm, hk⟩, rfl⟩⟩ := h
      · simpa using decode_escaped D d [c] t hm
      · simp [Dialect.decode, hm, hk]

/-- **Round trip**: a chain that is well-formed for a dialect is read back verbatim and inert by
that dialect, for every string. -/
theorem chain_roundtrip (D : Dialect) (ch : Chain) (hok : chainOK D ch = true) (s : List Char) :
    D.decode (applyChain ch s) = some s := by
  induction s with
  | nil => simp [applyChain_nil, Dialect.decode]
  | cons c s ih =>
    rw [applyChain_cons]
    by_cases hc : c ∈ interesting D ch
    · have : okChar D ch c = true := by
        unfold chainOK at hok
        exact List.all_eq_true.mp hok c hc
      rw [decode_okChar D ch c _ this, ih]; rfl
    · have hesc : c ≠ D.esc := fun h => hc (by simp [interesting, h])
      have hsp : c ∉ D.special := fun h => hc (by simp [interesting, h])
      have hpat : c ∉ ch.map (·.1) := fun h => hc (by
        simp only [interesting, List.mem_cons, List.mem_append]
        exact .inr h)
      rw [applyChain_single_of_not_mem ch c hpat]
      show D.decode (c :: applyChain ch s) = _
      rw [decode_plain D c _ hesc hsp, ih]; rfl

end Complgen.Quote
