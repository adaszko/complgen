/-
The minimiser inside the pipeline (`Pipeline.symbolsOf`, `Pipeline.compile`): the minimised
automata (main automaton and within-word automata) accept the language of the raw automata, and they
are accessible and (without empty alternations) reduced.  That the minimiser never runs out of fuel
there is used in `go_sub_cases`; for `compile` it is stated with the other crash sites in
`BuildTerm.lean`.
-/
import Complgen.Model.Pipeline
import Complgen.Proofs.HopcroftCard
import Complgen.Proofs.HopcroftTerm
namespace Complgen
open Complgen.Check

namespace Pipeline

/-- the symbol of a position inside a word (the `symOf` local to `symbolsOf.go`): no nested
within-word automata -/
def subSymOf (sr : Regex) : Nat → Option Inp := fun p =>
  match (sr.inputs[p]? : Option RxInput) with
  | some (RxInput.lit t d l _) => some (Inp.lit t d l)
  | some (RxInput.nonterm ..) => some Inp.star
  | some (RxInput.cmd c a l _) => some (if a then Inp.compadd c l else Inp.cmd c l)
  | _ => none

theorem ambToOutcome_ne_crash {α} (e : AmbErr) (s : String) :
    (ambToOutcome e : Outcome α) ≠ .crash s := by
  cases e <;> simp [ambToOutcome]

theorem ambToOutcome_ne_ok {α} (e : AmbErr) (x : α) :
    (ambToOutcome e : Outcome α) ≠ .ok x := by
  cases e <;> simp [ambToOutcome]

section Go
variable (σ : Schedule) (pool : RxPool) (rest : List RxInput) (acc : List Inp) (subs : List Auto)
  (cache : List (Nat × Nat))

theorem go_nil : symbolsOf.go σ pool [] acc subs cache = .ok (acc, subs) := by
  rw [symbolsOf.go]

theorem go_lit (t : String) (d : Option String) (l : Nat) (sp : Span) :
    symbolsOf.go σ pool (.lit t d l sp :: rest) acc subs cache =
      symbolsOf.go σ pool rest (acc ++ [.lit t d l]) subs cache := by
  rw [symbolsOf.go]

theorem go_nonterm (n : String) (l : Nat) (sp : Span) :
    symbolsOf.go σ pool (.nonterm n l sp :: rest) acc subs cache =
      symbolsOf.go σ pool rest (acc ++ [.star]) subs cache := by
  rw [symbolsOf.go]

theorem go_cmd (c : String) (a : Bool) (l : Nat) (sp : Span) :
    symbolsOf.go σ pool (.cmd c a l sp :: rest) acc subs cache =
      symbolsOf.go σ pool rest (acc ++ [if a then .compadd c l else .cmd c l]) subs cache := by
  rw [symbolsOf.go]

end Go

def SubOK (σ : Schedule) (pool : RxPool) (m : Auto) : Prop :=
  ∃ sr ∈ pool, ∃ raw, buildAuto σ sr (subSymOf sr) = some raw ∧ Min.minimize σ raw = some m

/-- No case for the fuel of the minimiser: it does not run out on what the subset construction
builds. -/
theorem go_sub_cases (σ : Schedule) (pool : RxPool) (rid l : Nat) (sp : Span)
    (rest : List RxInput) (acc : List Inp) (subs : List Auto) (cache : List (Nat × Nat))
    (R : Outcome (List Inp × List Auto))
    (h : symbolsOf.go σ pool (.sub rid l sp :: rest) acc subs cache = R) :
    (pool[rid]? = none ∧ R = .crash "RegexInternPool::lookup") ∨
    (∃ sr, pool[rid]? = some sr ∧ buildAuto σ sr (subSymOf sr) = none ∧
      R = .crash "dfa_from_regex: out of fuel") ∨
    (∃ e, R = ambToOutcome e) ∨
    (∃ k subs' cache', (subs' = subs ∨ ∃ m, SubOK σ pool m ∧ subs' = subs ++ [m]) ∧
      symbolsOf.go σ pool rest (acc ++ [.sub k l]) subs' cache' = R) := by
  rw [symbolsOf.go] at h
  split at h
  · rename_i k _
    exact .inr (.inr (.inr ⟨k, _, _, .inl rfl, h⟩))
  · split at h
    · rename_i hnone
      exact .inl ⟨hnone, h.symm⟩
    · rename_i sr hsr
      dsimp only at h
      split at h
      · rename_i hraw
        exact .inr (.inl ⟨sr, hsr, hraw, h.symm⟩)
      · rename_i raw hraw
        split at h
        · rename_i e _
          exact .inr (.inr (.inl ⟨e, h.symm⟩))
        · split at h
          · rename_i hmin
            have := Min.minimize_isSome σ raw (buildAuto_WF σ sr _ raw hraw)
            rw [hmin] at this
            cases this
          · rename_i m hmin
            split at h
            · rename_i e _
              exact .inr (.inr (.inl ⟨e, h.symm⟩))
            · refine .inr (.inr (.inr ?_))
              split at h
              · exact ⟨_, _, _, .inl rfl, h⟩
              · exact ⟨_, _, _, .inr ⟨m, ⟨sr, List.mem_of_getElem? hsr, raw, hraw, hmin⟩, rfl⟩, h⟩

theorem go_inv (σ : Schedule) (pool : RxPool) :
    ∀ (ins : List RxInput) (acc : List Inp) (subs : List Auto) (cache : List (Nat × Nat))
      (syms : List Inp) (subs' : List Auto),
      symbolsOf.go σ pool ins acc subs cache = .ok (syms, subs') →
      syms.length = acc.length + ins.length ∧
      ((∀ m ∈ subs, SubOK σ pool m) → ∀ m ∈ subs', SubOK σ pool m) := by
  intro ins
  induction ins with
  | nil =>
    intro acc subs cache syms subs' h
    rw [go_nil] at h
    cases h
    exact ⟨by simp, fun h => h⟩
  | cons x rest ih =>
    intro acc subs cache syms subs' h
    have cont : ∀ (i : Inp) (subs1 : List Auto) (cache1 : List (Nat × Nat)),
        symbolsOf.go σ pool rest (acc ++ [i]) subs1 cache1 = .ok (syms, subs') →
        ((∀ m ∈ subs, SubOK σ pool m) → ∀ m ∈ subs1, SubOK σ pool m) →
        syms.length = acc.length + (x :: rest).length ∧
          ((∀ m ∈ subs, SubOK σ pool m) → ∀ m ∈ subs', SubOK σ pool m) := by
      intro i subs1 cache1 h hs
      obtain ⟨h3, h4⟩ := ih _ _ _ _ _ h
      refine ⟨?_, fun hall => h4 (hs hall)⟩
      rw [h3, List.length_append, List.length_singleton, List.length_cons]
      omega
    cases x with
    | lit t d l sp =>
      rw [go_lit] at h
      exact cont _ _ _ h id
    | nonterm n l sp =>
      rw [go_nonterm] at h
      exact cont _ _ _ h id
    | cmd c a l sp =>
      rw [go_cmd] at h
      exact cont _ _ _ h id
    | sub rid l sp =>
      rcases go_sub_cases σ pool rid l sp rest acc subs cache _ h with
        ⟨_, h⟩ | ⟨_, _, _, h⟩ | ⟨e, h⟩ | ⟨k, subs1, cache1, hsubs, h⟩
      · cases h
      · cases h
      · exact absurd h.symm (ambToOutcome_ne_ok e _)
      · refine cont _ _ _ h (fun hall => ?_)
        rcases hsubs with rfl | ⟨m, hm, rfl⟩
        · exact hall
        · intro m' hm'
          rcases List.mem_append.1 hm' with hm' | hm'
          · exact hall m' hm'
          · rw [List.mem_singleton.1 hm']; exact hm

theorem symbolsOf_symOf (σ : Schedule) (pool : RxPool) (ins : List RxInput) (syms : List Inp)
    (subs : List Auto) (h : symbolsOf σ pool ins = .ok (syms, subs)) :
    (∀ p, p < ins.length → (syms[p]?).isSome) ∧ syms[ins.length]? = none := by
  have hl : syms.length = ins.length := by
    simpa using (go_inv σ pool ins [] [] [] syms subs h).1
  refine ⟨fun p hp => ?_, ?_⟩
  · rw [List.getElem?_eq_getElem (by omega)]; rfl
  · rw [List.getElem?_eq_none_iff]; omega

theorem compile_ok_inv (σ : Schedule) (g : Grammar) (sh : Shell) (c : Compiled)
    (h : compile σ g sh = .ok c) :
    validate g sh = .ok c.valid ∧
    (c.regex, c.pool) = Regex.ofExpr c.valid.expr [] ∧
    c.min.subs = c.raw.subs ∧
    ∃ syms, symbolsOf σ c.pool c.regex.inputs = .ok (syms, c.raw.subs) ∧
      buildAuto σ c.regex (fun p => syms[p]?) = some c.raw.main ∧
      Min.minimize σ c.raw.main = some c.min.main := by
  unfold compile at h
  split at h
  · cases h
  · cases h
  · rename_i v hv
    split at h
    rename_i regex pool hre
    split at h
    · cases h
    · split at h
      · cases h
      · cases h
      · rename_i syms subs hs
        split at h
        · cases h
        · rename_i raw hraw
          split at h
          · cases h
          · rename_i m hmin
            split at h
            · exact absurd h (ambToOutcome_ne_ok _ _)
            · cases h
              exact ⟨hv, hre.symm, rfl, syms, hs, hraw, hmin⟩

theorem compile_ok_main (σ : Schedule) (g : Grammar) (sh : Shell) (c : Compiled)
    (h : compile σ g sh = .ok c) :
    validate g sh = .ok c.valid ∧
    ∃ syms, symbolsOf σ c.pool c.regex.inputs = .ok (syms, c.raw.subs) ∧
      (∀ p, p < c.valid.expr.leafCount → (syms[p]?).isSome) ∧
      syms[c.valid.expr.leafCount]? = none ∧
      buildAuto σ (Regex.ofExpr c.valid.expr []).1 (fun p => syms[p]?) = some c.raw.main ∧
      Min.minimize σ c.raw.main = some c.min.main := by
  obtain ⟨hv, hre, _, syms, hs, hraw, hmin⟩ := compile_ok_inv σ g sh c h
  have hreg : c.regex = (Regex.ofExpr c.valid.expr []).1 := by rw [← hre]
  obtain ⟨hsym, hend⟩ := symbolsOf_symOf σ c.pool c.regex.inputs syms c.raw.subs hs
  have hlen : c.regex.inputs.length = c.valid.expr.leafCount := hreg ▸ Regex.ofExpr_endPos _ _
  rw [hlen] at hsym hend
  exact ⟨hv, syms, hs, hsym, hend, hreg ▸ hraw, hmin⟩

theorem compile_min_language (σ : Schedule) (g : Grammar) (sh : Shell) (c : Compiled)
    (h : compile σ g sh = .ok c) :
    ∀ w : List Nat, c.min.main.accepts w = c.raw.main.accepts w := by
  obtain ⟨_, _, _, syms, _, hraw, hmin⟩ := compile_ok_inv σ g sh c h
  exact minimize_buildAuto_lang σ σ c.regex _ c.raw.main c.min.main hraw hmin

theorem compile_min_minimal (σ : Schedule) (g : Grammar) (sh : Shell) (c : Compiled)
    (h : compile σ g sh = .ok c) (hne : c.valid.expr.NoEmptyAlt) :
    (∀ p ∈ c.min.main.states, ∀ q ∈ c.min.main.states, p ≠ q →
      ∃ w : List Nat, Min.accFrom c.min.main p w ≠ Min.accFrom c.min.main q w) ∧
    (∀ q ∈ c.min.main.states, ∃ w : List Nat, c.min.main.run c.min.main.start w = some q) := by
  obtain ⟨_, syms, _, hsym, hend, hraw, hmin⟩ := compile_ok_main σ g sh c h
  exact minimize_raw_reduced_accessible σ σ c.valid.expr [] _ c.raw.main c.min.main hne hsym hend
    hraw hmin

theorem subSymOf_end (sr : Regex) : subSymOf sr sr.endPos = none := by
  simp [subSymOf, Regex.endPos]

theorem subSymOf_isSome (sr : Regex)
    (hflat : ∀ i ∈ sr.inputs, ∀ rid l sp, i ≠ RxInput.sub rid l sp) :
    ∀ p, p < sr.inputs.length → (subSymOf sr p).isSome := by
  intro p hp
  have hmem := List.getElem_mem hp
  simp only [subSymOf, List.getElem?_eq_getElem hp]
  cases hi : sr.inputs[p] with
  | lit => rfl
  | nonterm => rfl
  | cmd => rfl
  | sub rid l sp => exact absurd hi (hflat _ hmem rid l sp)

theorem symbolsOf_subs_minimised (σ : Schedule) (pool : RxPool) (ins : List RxInput)
    (syms : List Inp) (subs : List Auto) (h : symbolsOf σ pool ins = .ok (syms, subs)) :
    ∀ m ∈ subs, ∃ sr ∈ pool, ∃ raw,
      buildAuto σ sr (subSymOf sr) = some raw ∧ Min.minimize σ raw = some m ∧
      (∀ w : List Nat, m.accepts w = raw.accepts w) ∧
      (∀ q ∈ m.states, ∃ w : List Nat, m.run m.start w = some q) ∧
      (sr.root.Linear → (∀ q ∈ sr.root.positions, q < sr.endPos) → sr.root.NoEmptyOr →
        (∀ i ∈ sr.inputs, ∀ rid l sp, i ≠ RxInput.sub rid l sp) →
        ∀ p ∈ m.states, ∀ q ∈ m.states, p ≠ q →
          ∃ w : List Nat, Min.accFrom m p w ≠ Min.accFrom m q w) := by
  intro m hm
  obtain ⟨sr, hsr, raw, hraw, hmin⟩ :=
    (go_inv σ pool ins [] [] [] syms subs h).2 (fun _ hm => by cases hm) m hm
  refine ⟨sr, hsr, raw, hraw, hmin, minimize_buildAuto_lang σ σ sr _ raw m hraw hmin,
    minimize_buildAuto_accessible σ σ sr _ raw m hraw hmin, ?_⟩
  intro hl hpos hne hflat
  exact minimize_buildAuto_reduced σ σ sr _ raw m hl hpos hne (subSymOf_isSome sr hflat)
    (subSymOf_end sr) hraw hmin

def PoolWF (pool : RxPool) : Prop :=
  ∀ sr ∈ pool, sr.root.Linear ∧ ∀ q ∈ sr.root.positions, q < sr.endPos

theorem PoolWF.intern {pool : RxPool} (h : PoolWF pool) (r : Regex)
    (hr : r.root.Linear ∧ ∀ q ∈ r.root.positions, q < r.endPos) : PoolWF (pool.intern r).1 := by
  unfold RxPool.intern
  split
  · exact h
  · intro sr hsr
    rcases List.mem_append.1 hsr with hsr | hsr
    · exact h sr hsr
    · rw [List.mem_singleton.1 hsr]; exact hr

theorem rxOfExpr_sub_pool (c : Expr) (l : Nat) (s : Span) (ins : List RxInput) (pool : RxPool) :
    (rxOfExpr (.sub c l s) (ins, pool)).2.2 =
      ((rxOfExpr c ([], pool)).2.2.intern
        ⟨(rxOfExpr c ([], pool)).1, (rxOfExpr c ([], pool)).2.1⟩).1 := by
  simp only [rxOfExpr]

mutual
theorem rxOfExpr_poolWF : (e : Expr) → (ins : List RxInput) → (pool : RxPool) → PoolWF pool →
    PoolWF (rxOfExpr e (ins, pool)).2.2
  | .term .. | .nonterm .. | .cmd .. => fun ins pool h => by simpa only [rxOfExpr] using h
  | .sub c l s => fun ins pool h => by
    rw [rxOfExpr_sub_pool]
    refine PoolWF.intern (rxOfExpr_poolWF c [] pool h) _ ?_
    obtain ⟨h1, h2⟩ := rxOfExpr_num c [] pool
    simp only [Regex.endPos, Rx.Linear, h1, h2]
    refine ⟨List.nodup_range', fun q hq => ?_⟩
    rw [List.mem_range'_1] at hq
    simpa using hq.2
  | .seq cs s => fun ins pool h => by rw [rxOfExpr_seq]; exact rxOfExprL_poolWF cs ins pool h
  | .alt cs s => fun ins pool h => by rw [rxOfExpr_alt]; exact rxOfExprL_poolWF cs ins pool h
  | .fb cs s => fun ins pool h => by rw [rxOfExpr_fb]; exact rxOfExprL_poolWF cs ins pool h
  | .opt c s => fun ins pool h => by rw [rxOfExpr_opt]; exact rxOfExpr_poolWF c ins pool h
  | .many1 c s => fun ins pool h => by rw [rxOfExpr_many1]; exact rxOfExpr_poolWF c ins pool h
  | .dd c d s => fun ins pool h => by rw [rxOfExpr_dd]; exact h
theorem rxOfExprL_poolWF : (es : ExprL) → (ins : List RxInput) → (pool : RxPool) → PoolWF pool →
    PoolWF (rxOfExprL es (ins, pool)).2.2
  | .nil => fun ins pool h => by rw [rxOfExprL_nil]; exact h
  | .cons e es => fun ins pool h => by
    rw [rxOfExprL_cons]
    exact rxOfExprL_poolWF es (rxOfExpr e (ins, pool)).2.1 (rxOfExpr e (ins, pool)).2.2
      (rxOfExpr_poolWF e ins pool h)
end

theorem _root_.Complgen.Regex.ofExpr_poolWF (e : Expr) : PoolWF (Regex.ofExpr e []).2 := by
  have := rxOfExpr_poolWF e [] [] (fun _ h => by cases h)
  simpa only [Regex.ofExpr] using this

/-- **The within-word automata of a compiled grammar**: each is the minimised automaton of the
automaton built from a within-word regex of the pool, accepts the language of that raw automaton,
is accessible, and is reduced when that regex has no empty alternation and no nested within-word
input (linearity and the numbering come from `Regex.ofExpr`). -/
theorem compile_subs_minimised (σ : Schedule) (g : Grammar) (sh : Shell) (c : Compiled)
    (h : compile σ g sh = .ok c) :
    c.raw.subs = c.min.subs ∧
    ∀ m ∈ c.min.subs, ∃ sr ∈ c.pool, ∃ raw,
      buildAuto σ sr (subSymOf sr) = some raw ∧ Min.minimize σ raw = some m ∧
      (∀ w : List Nat, m.accepts w = raw.accepts w) ∧
      (∀ q ∈ m.states, ∃ w : List Nat, m.run m.start w = some q) ∧
      (sr.root.NoEmptyOr → (∀ i ∈ sr.inputs, ∀ rid l sp, i ≠ RxInput.sub rid l sp) →
        ∀ p ∈ m.states, ∀ q ∈ m.states, p ≠ q →
          ∃ w : List Nat, Min.accFrom m p w ≠ Min.accFrom m q w) := by
  obtain ⟨_, hre, hsubs, syms, hs, _, _⟩ := compile_ok_inv σ g sh c h
  refine ⟨hsubs.symm, fun m hm => ?_⟩
  rw [hsubs] at hm
  obtain ⟨sr, hsr, raw, hraw, hmin, hlang, hacc, hred⟩ :=
    symbolsOf_subs_minimised σ c.pool c.regex.inputs syms c.raw.subs hs m hm
  have hpool : c.pool = (Regex.ofExpr c.valid.expr []).2 := by rw [← hre]
  have hwf := Regex.ofExpr_poolWF c.valid.expr sr (hpool ▸ hsr)
  exact ⟨sr, hsr, raw, hraw, hmin, hlang, hacc, fun hne hflat => hred hwf.1 hwf.2 hne hflat⟩

end Pipeline
end Complgen
