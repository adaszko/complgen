/-
C09: `||` is transparent to matching.  Replacing every `||` of a grammar by `|` changes descriptions
(a description after a group is spent differently) and levels, and nothing else: the meaning of the
two grammars is the same expression once descriptions, levels and source positions are erased and
`||` is read as `|` (`strip`).  Through `validate_expr_eq_meaning` the same holds for what the model
of check.rs returns.
-/
import Complgen.Proofs.Meaning
namespace Complgen.Check

mutual
def strip : Expr → Expr
  | .term t _ _ _ => .term t none 0 default
  | .nonterm n _ _ => .nonterm n 0 default
  | .cmd c a _ _ => .cmd c a 0 default
  | .seq cs _ => .seq (stripL cs) default
  | .alt cs _ => .alt (stripL cs) default
  | .fb cs _ => .alt (stripL cs) default
  | .opt c _ => .opt (strip c) default
  | .many1 c _ => .many1 (strip c) default
  | .sub c _ _ => .sub (strip c) 0 default
  | .dd c _ _ => strip c
def stripL : ExprL → ExprL
  | .nil => .nil
  | .cons e es => .cons (strip e) (stripL es)
end

mutual
def fbToAlt : Expr → Expr
  | .fb cs s => .alt (fbToAltL cs) s
  | .seq cs s => .seq (fbToAltL cs) s
  | .alt cs s => .alt (fbToAltL cs) s
  | .opt c s => .opt (fbToAlt c) s
  | .many1 c s => .many1 (fbToAlt c) s
  | .sub c l s => .sub (fbToAlt c) l s
  | .dd c d s => .dd (fbToAlt c) d s
  | e => e
def fbToAltL : ExprL → ExprL
  | .nil => .nil
  | .cons e es => .cons (fbToAlt e) (fbToAltL es)
end

def fbToAltStmt : Stmt → Stmt
  | .call n s e => .call n s (fbToAlt e)
  | .defn n s sh e => .defn n s sh (fbToAlt e)

def fbToAltG (g : Grammar) : Grammar := g.map fbToAltStmt

mutual
theorem strip_fbToAlt : ∀ e : Expr, strip (fbToAlt e) = strip e
  | .term .. | .nonterm .. | .cmd .. => rfl
  | .dd c _ _ => strip_fbToAlt c
  | .opt c _ => congrArg (Expr.opt · default) (strip_fbToAlt c)
  | .many1 c _ => congrArg (Expr.many1 · default) (strip_fbToAlt c)
  | .sub c _ _ => congrArg (Expr.sub · 0 default) (strip_fbToAlt c)
  | .seq cs _ => congrArg (Expr.seq · default) (stripL_fbToAlt cs)
  | .alt cs _ | .fb cs _ => congrArg (Expr.alt · default) (stripL_fbToAlt cs)
theorem stripL_fbToAlt : ∀ es : ExprL, stripL (fbToAltL es) = stripL es
  | .nil => rfl
  | .cons e es => cons_congr (strip_fbToAlt e) (stripL_fbToAlt es)
end

mutual
theorem strip_distr : ∀ (e : Expr) (p : Option String), strip (Spec.distr e p).1 = strip e
  | .term _ d _ _ => fun p => by cases d <;> cases p <;> rfl
  | .nonterm .. | .cmd .. => fun _ => rfl
  | .dd c d _ => fun _ => strip_distr c (some d)
  | .opt c _ => fun p => congrArg (Expr.opt · default) (strip_distr c p)
  | .many1 c _ => fun p => congrArg (Expr.many1 · default) (strip_distr c p)
  | .sub c _ _ => fun p => congrArg (Expr.sub · 0 default) (strip_distr c p)
  | .seq cs _ => fun p => congrArg (Expr.seq · default) (stripL_distrSeq cs p)
  | .fb cs _ => fun p => congrArg (Expr.alt · default) (stripL_distrSeq cs p)
  | .alt cs _ => fun p => congrArg (Expr.alt · default) (stripL_distrAlt cs p)
theorem stripL_distrSeq : ∀ (es : ExprL) (p : Option String), stripL (Spec.distrSeq es p).1 = stripL es
  | .nil => fun _ => rfl
  | .cons e es => fun p => cons_congr (strip_distr e p) (stripL_distrSeq es (Spec.distr e p).2)
theorem stripL_distrAlt : ∀ (es : ExprL) (p : Option String), stripL (Spec.distrAlt es p).1 = stripL es
  | .nil => fun _ => rfl
  | .cons e es => fun p => cons_congr (strip_distr e p) (stripL_distrAlt es p)
end

mutual
theorem strip_label : ∀ (e : Expr) (lvl : Nat), strip (Spec.label e lvl) = strip e
  | .term .. | .nonterm .. | .cmd .. => fun _ => rfl
  | .dd c _ _ => strip_label c
  | .opt c _ => fun lvl => congrArg (Expr.opt · default) (strip_label c lvl)
  | .many1 c _ => fun lvl => congrArg (Expr.many1 · default) (strip_label c lvl)
  | .sub c _ _ => fun lvl => congrArg (Expr.sub · 0 default) (strip_label c lvl)
  | .seq cs _ => fun lvl => congrArg (Expr.seq · default) (stripL_labelL cs lvl)
  | .alt cs _ => fun lvl => congrArg (Expr.alt · default) (stripL_labelL cs lvl)
  | .fb cs _ => fun _ => congrArg (Expr.alt · default) (stripL_labelFb cs 0)
theorem stripL_labelL : ∀ (es : ExprL) (lvl : Nat), stripL (Spec.labelL es lvl) = stripL es
  | .nil => fun _ => rfl
  | .cons e es => fun lvl => cons_congr (strip_label e lvl) (stripL_labelL es lvl)
theorem stripL_labelFb : ∀ (es : ExprL) (i : Nat), stripL (Spec.labelFb es i) = stripL es
  | .nil => fun _ => rfl
  | .cons e es => fun i => cons_congr (strip_label e i) (stripL_labelFb es (i + 1))
end

theorem specFor_fbToAlt (sh : Shell) (n : String) (st : Stmt) : specFor sh n (fbToAltStmt st) = specFor sh n st := by
  cases st with
  | call c s e => rfl
  | defn m s shl e =>
    cases shl with
    | none => rfl
    | some p =>
      obtain ⟨a, b⟩ := p
      cases e <;> simp [fbToAltStmt, fbToAlt, specFor]

theorem plainFor_fbToAlt (n : String) (st : Stmt) : plainFor n (fbToAltStmt st) = (plainFor n st).map fbToAlt := by
  cases st with
  | call c s e => rfl
  | defn m s shl e =>
    cases shl with
    | some p => rfl
    | none =>
      simp only [fbToAltStmt, plainFor]
      split <;> rfl

theorem findSome?_map_opt {α β γ} (f : α → Option β) (g : β → γ) : ∀ l : List α,
    l.findSome? (fun a => (f a).map g) = (l.findSome? f).map g
  | [] => rfl
  | a :: l => by
    simp only [List.findSome?_cons]
    cases f a with
    | none => simpa using findSome?_map_opt f g l
    | some b => rfl

theorem pick_fbToAlt (sh : Shell) (g : Grammar) (n : String) :
    Spec.pick sh (fbToAltG g) n =
      match Spec.pick sh g n with
      | .command c a => .command c a
      | .expr d => .expr (fbToAlt d)
      | .anyWord => .anyWord := by
  rw [pick_unfold, pick_unfold]
  unfold fbToAltG
  rw [List.findSome?_map, List.findSome?_map]
  have h1 : (specFor sh n ∘ fbToAltStmt) = specFor sh n := funext (specFor_fbToAlt sh n)
  have h2 : (plainFor n ∘ fbToAltStmt) = fun st => (plainFor n st).map fbToAlt := funext (plainFor_fbToAlt n)
  rw [h1, h2, findSome?_map_opt]
  cases List.findSome? (specFor sh n) g with
  | some c => rfl
  | none =>
    simp only
    cases List.findSome? (plainFor n) g with
    | some e => rfl
    | none =>
      simp only [Option.map_none]
      cases (Gen.builtinTable.find? (fun r => r.1 == n && r.2.1 == sh)).map (·.2.2) <;> rfl

def Sim (a b : Expr) : Prop := strip a = strip b ∧ NoDD a = true ∧ NoDD b = true
def SimL (a b : ExprL) : Prop := stripL a = stripL b ∧ NoDDL a = true ∧ NoDDL b = true

theorem simL_cons {a b : Expr} {as bs : ExprL} (h : SimL (.cons a as) (.cons b bs)) : Sim a b ∧ SimL as bs :=
  have ⟨h1, h2⟩ := ExprL.cons.inj h.1
  have ⟨a1, a2⟩ := noDDL_cons.mp h.2.1
  have ⟨b1, b2⟩ := noDDL_cons.mp h.2.2
  ⟨⟨h1, a1, b1⟩, ⟨h2, a2, b2⟩⟩

theorem sim_distr (d : Expr) : Sim (Spec.distr (fbToAlt d) none).1 (Spec.distr d none).1 := by
  refine ⟨?_, ?_, ?_⟩
  · rw [strip_distr, strip_distr, strip_fbToAlt]
  · rw [← distr_eq_spec]; exact distr_noDD _ none
  · rw [← distr_eq_spec]; exact distr_noDD _ none

theorem expandL_sim_step (sh : Shell) (g : Grammar) (k : Nat)
    (hE : ∀ a b : Expr, Sim a b → strip (Spec.expand sh (fbToAltG g) k a) = strip (Spec.expand sh g k b)) :
    ∀ as bs : ExprL, SimL as bs →
      stripL (Spec.expandL sh (fbToAltG g) (k + 1) as) = stripL (Spec.expandL sh g (k + 1) bs)
  | .nil => fun bs h => by
    cases bs with
    | nil => simp only [Spec.expandL]
    | cons => cases h.1
  | .cons a as => fun bs h => by
    cases bs with
    | nil => cases h.1
    | cons b bs =>
      obtain ⟨h1, h2⟩ := simL_cons h
      simp only [Spec.expandL, stripL, hE a b h1, expandL_sim_step sh g k hE as bs h2]

theorem expand_sim (sh : Shell) (g : Grammar) : ∀ k : Nat,
    (∀ a b : Expr, Sim a b → strip (Spec.expand sh (fbToAltG g) k a) = strip (Spec.expand sh g k b)) ∧
    (∀ as bs : ExprL, SimL as bs → stripL (Spec.expandL sh (fbToAltG g) k as) = stripL (Spec.expandL sh g k bs))
  | 0 => ⟨fun a b h => by simpa only [Spec.expand] using h.1, fun as bs h => by simpa only [Spec.expandL] using h.1⟩
  | k + 1 => by
    have ih := expand_sim sh g k
    refine ⟨?_, expandL_sim_step sh g k ih.1⟩
    -- equal skeletons have the same head constructor (`||` counting as `|`), and `hs` relates the parts
    intro a b ⟨hs, ha, hb⟩
    cases a with
    | dd => nomatch ha
    | term t d l s =>
      cases b with
      | dd => nomatch hb
      | term => cases hs; simp only [Spec.expand, strip]
      | _ => cases hs
    | cmd c a l s =>
      cases b with
      | dd => nomatch hb
      | cmd => cases hs; simp only [Spec.expand, strip]
      | _ => cases hs
    | nonterm n l s =>
      cases b with
      | dd => nomatch hb
      | nonterm =>
        cases hs
        simp only [Spec.expand, pick_fbToAlt]
        cases Spec.pick sh g n with
        | command | anyWord => rfl
        | expr d => exact ih.1 _ _ (sim_distr d)
      | _ => cases hs
    | opt c s =>
      cases b with
      | dd => nomatch hb
      | opt c' s' =>
        simp only [Spec.expand]
        exact congrArg (Expr.opt · default) (ih.1 c c' ⟨(Expr.opt.inj hs).1, ha, hb⟩)
      | _ => cases hs
    | many1 c s =>
      cases b with
      | dd => nomatch hb
      | many1 c' s' =>
        simp only [Spec.expand]
        exact congrArg (Expr.many1 · default) (ih.1 c c' ⟨(Expr.many1.inj hs).1, ha, hb⟩)
      | _ => cases hs
    | sub c l s =>
      cases b with
      | dd => nomatch hb
      | sub c' l' s' =>
        simp only [Spec.expand]
        exact congrArg (Expr.sub · 0 default) (ih.1 c c' ⟨(Expr.sub.inj hs).1, ha, hb⟩)
      | _ => cases hs
    | seq cs s =>
      cases b with
      | dd => nomatch hb
      | seq cs' s' =>
        simp only [Spec.expand]
        exact congrArg (Expr.seq · default) (ih.2 cs cs' ⟨(Expr.seq.inj hs).1, ha, hb⟩)
      | _ => cases hs
    | alt cs s | fb cs s =>
      cases b with
      | dd => nomatch hb
      | alt cs' s' | fb cs' s' =>
        simp only [Spec.expand]
        exact congrArg (Expr.alt · default) (ih.2 cs cs' ⟨(Expr.alt.inj hs).1, ha, hb⟩)
      | _ => cases hs

mutual
theorem strip_unword : ∀ e : Expr, NoDD e = true → strip (Spec.unword e) = Spec.unword (strip e)
  | .term .. | .nonterm .. | .cmd .. => fun _ => rfl
  | .dd .. => fun h => nomatch h
  | .sub c _ _ => strip_unword c
  | .opt c _ => fun h => congrArg (Expr.opt · default) (strip_unword c h)
  | .many1 c _ => fun h => congrArg (Expr.many1 · default) (strip_unword c h)
  | .seq cs _ => fun h => congrArg (Expr.seq · default) (stripL_unword cs h)
  | .alt cs _ | .fb cs _ => fun h => congrArg (Expr.alt · default) (stripL_unword cs h)
theorem stripL_unword : ∀ es : ExprL, NoDDL es = true → stripL (Spec.unwordL es) = Spec.unwordL (stripL es)
  | .nil => fun _ => rfl
  | .cons e es => fun h => cons_congr (strip_unword e (noDDL_cons.mp h).1) (stripL_unword es (noDDL_cons.mp h).2)
end

mutual
theorem strip_words : ∀ e : Expr, NoDD e = true → strip (Spec.words e) = Spec.words (strip e)
  | .term .. | .nonterm .. | .cmd .. => fun _ => rfl
  | .dd .. => fun h => nomatch h
  | .sub c _ _ => fun h => congrArg (Expr.sub · 0 default) (strip_unword c h)
  | .opt c _ => fun h => congrArg (Expr.opt · default) (strip_words c h)
  | .many1 c _ => fun h => congrArg (Expr.many1 · default) (strip_words c h)
  | .seq cs _ => fun h => congrArg (Expr.seq · default) (stripL_words cs h)
  | .alt cs _ | .fb cs _ => fun h => congrArg (Expr.alt · default) (stripL_words cs h)
theorem stripL_words : ∀ es : ExprL, NoDDL es = true → stripL (Spec.wordsL es) = Spec.wordsL (stripL es)
  | .nil => fun _ => rfl
  | .cons e es => fun h => cons_congr (strip_words e (noDDL_cons.mp h).1) (stripL_words es (noDDL_cons.mp h).2)
end

theorem callsOf_fbToAlt : ∀ g : Grammar,
    callsOf (fbToAltG g) = (callsOf g).map fun c => (c.1, c.2.1, fbToAlt c.2.2)
  | [] => rfl
  | .call n s e :: rest => congrArg ((n, s, fbToAlt e) :: ·) (callsOf_fbToAlt rest)
  | .defn .. :: rest => callsOf_fbToAlt rest

theorem callBodies_fbToAlt (g : Grammar) : Spec.callBodies (fbToAltG g) = (Spec.callBodies g).map fbToAlt := by
  rw [spec_calls, spec_calls, callsOf_fbToAlt, List.map_map, List.map_map]
  rfl

theorem stripL_ofList_map : ∀ l : List Expr, stripL (ExprL.ofList (l.map fbToAlt)) = stripL (ExprL.ofList l)
  | [] => rfl
  | e :: es => by simp [ExprL.ofList, stripL, strip_fbToAlt e, stripL_ofList_map es]

theorem strip_topOf (sp : Span) (g : Grammar) : strip (Spec.topOf sp (fbToAltG g)) = strip (Spec.topOf sp g) := by
  unfold Spec.topOf
  rw [callBodies_fbToAlt]
  cases hc : Spec.callBodies g with
  | nil => rfl
  | cons e rest =>
    cases rest with
    | nil => simp [strip_fbToAlt]
    | cons e2 rest2 =>
      simp only [List.map_cons, strip, Expr.alt.injEq, and_true]
      exact stripL_ofList_map (e :: e2 :: rest2)

mutual
theorem size_fbToAlt : ∀ e : Expr, Spec.size (fbToAlt e) = Spec.size e
  | .term .. | .nonterm .. | .cmd .. => rfl
  | .opt c _ | .many1 c _ | .sub c _ _ | .dd c _ _ => congrArg (· + 1) (size_fbToAlt c)
  | .fb cs _ | .seq cs _ | .alt cs _ => congrArg (· + 1) (sizeL_fbToAlt cs)
theorem sizeL_fbToAlt : ∀ es : ExprL, Spec.sizeL (fbToAltL es) = Spec.sizeL es
  | .nil => rfl
  | .cons e es => by simp only [fbToAltL, Spec.sizeL, size_fbToAlt e, sizeL_fbToAlt es]
end

/-- **`||` is transparent to matching**: the meaning of a grammar and of the grammar with every `||`
replaced by `|` agree up to `strip`. -/
theorem meaningAt_fbToAlt (sp : Span) (g : Grammar) (sh : Shell) :
    strip (Spec.meaningAt sp (fbToAltG g) sh) = strip (Spec.meaningAt sp g sh) := by
  have hsize : ((fbToAltG g).map stmtSize).sum = (g.map stmtSize).sum := by
    unfold fbToAltG
    rw [List.map_map]
    congr 1
    apply List.map_congr_left
    intro st _
    cases st <;> simp [fbToAltStmt, stmtSize, size_fbToAlt]
  rw [meaningAt_eq, meaningAt_eq, hsize]
  have hd1 : NoDD (Spec.distr (Spec.topOf sp (fbToAltG g)) none).1 = true := by
    rw [← distr_eq_spec]; exact distr_noDD _ none
  have hd2 : NoDD (Spec.distr (Spec.topOf sp g) none).1 = true := by
    rw [← distr_eq_spec]; exact distr_noDD _ none
  have hsim : Sim (Spec.distr (Spec.topOf sp (fbToAltG g)) none).1 (Spec.distr (Spec.topOf sp g) none).1 :=
    ⟨by rw [strip_distr, strip_distr, strip_topOf], hd1, hd2⟩
  have he := (expand_sim sh g (2 * (g.map stmtSize).sum + 8)).1 _ _ hsim
  have hn1 := (expand_noDD sh (fbToAltG g) (2 * (g.map stmtSize).sum + 8)).1 _ hd1
  have hn2 := (expand_noDD sh g (2 * (g.map stmtSize).sum + 8)).1 _ hd2
  rw [strip_label, strip_label, strip_words _ hn1, strip_words _ hn2, he]

theorem span_fbToAlt (e : Expr) : (fbToAlt e).span = e.span := by
  cases e <;> simp [fbToAlt, Expr.span]

theorem topSpan_fbToAlt (g : Grammar) : topSpan (fbToAltG g) = topSpan g := by
  unfold topSpan
  rw [callsOf_fbToAlt]
  cases callsOf g with
  | nil => rfl
  | cons c rest => simp [span_fbToAlt]

/-- **What the model of check.rs returns for a grammar and for its `|` variant differs in descriptions,
levels and `||` vs `|` only** — whenever it accepts both. -/
theorem validate_fbToAlt (g : Grammar) (sh : Shell) (v v' : Valid) (h : validate g sh = .ok v)
    (h' : validate (fbToAltG g) sh = .ok v') : strip v'.expr = strip v.expr := by
  rw [validate_expr_eq_meaning g sh v h, validate_expr_eq_meaning (fbToAltG g) sh v' h', topSpan_fbToAlt]
  exact meaningAt_fbToAlt _ g sh

end Complgen.Check
