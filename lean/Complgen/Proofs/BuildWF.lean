/-
The automaton built by the subset construction (`buildAuto`) meets the hypotheses under which the
minimiser is studied, for EVERY work-list schedule: it is well-formed (`Min.WF`) and accessible
with no side condition on the regex or on `symOf`, and co-accessible when the expression is linear
and has no empty alternation.

What is used of `Subset.Base` after the loop: names are injective both ways and every recorded
transition `(i,k,j)` is a correct target, which gives determinism and the bound on the input
indices; every id is ≥ 1 and reachable from id 1 along recorded transitions (`Reach`).  Under
determinism a recorded transition is what `Auto.step` finds, so `Reach` becomes `Auto.run`.
Co-accessibility comes from the position automaton: every position has a continuation
(`Rx.after_nonempty`), which is a walk along `follow` to the end marker.
-/
import Complgen.Proofs.Subset
import Complgen.Proofs.RxOfExpr
namespace Complgen
namespace BuildWF
open Subset

theorem run_of_reach (a : Auto)
    (hdet : ∀ t1 ∈ a.trans, ∀ t2 ∈ a.trans, t1.1 = t2.1 → t1.2.1 = t2.2.1 → t1.2.2 = t2.2.2)
    {s q : Nat} (h : Reach a.trans s q) : ∃ w, a.run s w = some q := by
  induction h with
  | refl => exact ⟨[], rfl⟩
  | step _ hm ih =>
    rename_i i k j _
    obtain ⟨w, hw⟩ := ih
    refine ⟨w ++ [k], ?_⟩
    rw [Min.run_append, hw]
    simp only [Option.bind_some, Auto.run, Min.step_of_mem hdet hm]

theorem state_named {follow : Nat → List Nat} {symOf : Nat → Option Inp} {inps : List (Nat × Inp)}
    {st : BuildState} {start : List Nat} (hb : Base follow symOf inps st)
    (hstart : (start, 1) ∈ st.ids) {endPos : Nat} {inputs : List Inp} {q : Nat}
    (hq : q ∈ (assemble st endPos inputs).states) : ∃ S, (S, q) ∈ st.ids := by
  rcases Min.mem_states.1 hq with rfl | ⟨t, ht, rfl | rfl⟩
  · exact ⟨start, hstart⟩
  · obtain ⟨S, x, a1, _, _, _⟩ := hb.tr t ht
    exact ⟨S, a1⟩
  · obtain ⟨S, x, _, _, _, d1⟩ := hb.tr t ht
    exact ⟨_, d1⟩

theorem buildLoop_WF (σ : Schedule) (start : List Nat) (follow : Nat → List Nat)
    (symOf : Nat → Option Inp) (endPos : Nat) (inputs : List Inp) (fuel : Nat)
    (st : BuildState)
    (h : buildLoop σ follow symOf (indexed inputs) fuel 0 (initState start) = some st) :
    Min.WF (assemble st endPos inputs) := by
  obtain ⟨hb, _, _, hstart⟩ := buildLoop_facts h
  have hdet : ∀ t1 ∈ st.trans, ∀ t2 ∈ st.trans, t1.1 = t2.1 → t1.2.1 = t2.2.1 →
      t1.2.2 = t2.2.2 := by
    intro t1 h1 t2 h2 e1 e2
    obtain ⟨S1, x1, a1, b1, _, d1⟩ := hb.tr t1 h1
    obtain ⟨S2, x2, a2, b2, _, d2⟩ := hb.tr t2 h2
    rw [e1] at a1
    rw [e2] at b1
    have eS : S1 = S2 := hb.inj2 _ a1 _ a2 rfl
    have ex : x1 = x2 := indexed_fun b1 b2
    subst eS ex
    exact hb.inj1 _ d1 _ d2 rfl
  refine ⟨?_, hdet, ?_, ?_⟩
  · intro h0
    obtain ⟨S, hS⟩ := state_named hb hstart h0
    exact Nat.lt_irrefl 0 (hb.pos _ hS)
  · intro t ht
    obtain ⟨S, x, _, b1, _, _⟩ := hb.tr t ht
    rw [mem_indexed] at b1
    exact (List.getElem?_eq_some_iff.1 b1).1
  · intro q hq
    obtain ⟨e, he, rfl⟩ := List.mem_map.1 hq
    exact run_of_reach (assemble st endPos inputs) hdet (hb.reach e (List.mem_filter.1 he).1)

theorem buildLoop_access (σ : Schedule) (start : List Nat) (follow : Nat → List Nat)
    (symOf : Nat → Option Inp) (endPos : Nat) (inputs : List Inp) (fuel : Nat)
    (st : BuildState)
    (h : buildLoop σ follow symOf (indexed inputs) fuel 0 (initState start) = some st) :
    Min.Access (assemble st endPos inputs) := by
  obtain ⟨hb, _, _, hstart⟩ := buildLoop_facts h
  have hwf := buildLoop_WF σ start follow symOf endPos inputs fuel st h
  intro q hq
  obtain ⟨S, hS⟩ := state_named hb hstart hq
  exact run_of_reach _ hwf.2.1 (hb.reach _ hS)

theorem buildLoop_coacc (σ : Schedule) (first : List Nat) (follow : Nat → List Nat)
    (symOf : Nat → Option Inp) (endPos : Nat) (inputs : List Inp) (fuel : Nat)
    (st : BuildState)
    (hinputs : ∀ x, x ∈ inputs ↔ ∃ p, p < endPos ∧ symOf p = some x)
    (hend : symOf endPos = none)
    (hfollow : ∀ p q, q ∈ follow p → q ≤ endPos)
    (hfirst : ∀ q ∈ first, q ≤ endPos)
    (hne : first ≠ [])
    (hpos : ∀ q, (q ∈ first ∨ ∃ p, q ∈ follow p) → ∃ w, Acc follow symOf endPos q w)
    (h : buildLoop σ follow symOf (indexed inputs) fuel 0 (initState (normSet first)) = some st) :
    Min.CoAcc (assemble st endPos inputs) := by
  obtain ⟨hb, hc, hw, hstart⟩ := buildLoop_facts h
  have hwf := buildLoop_WF σ _ follow symOf endPos inputs fuel st h
  have key : ∀ S i, (S, i) ∈ st.ids →
      (∃ q, q ∈ S ∧ q ≤ endPos ∧ ∃ w, Acc follow symOf endPos q w) →
      ∃ ks, Min.accFrom (assemble st endPos inputs) i ks = true := by
    rintro S i hS ⟨q, hqS, hqe, w, hAcc⟩
    have hks : ∀ x ∈ w, ∃ k, (k, x) ∈ indexed inputs := by
      intro x hx
      have := acc_syms follow symOf endPos hend hfollow hqe hAcc x hx
      rw [← hinputs, List.mem_iff_getElem?] at this
      obtain ⟨k, hk⟩ := this
      exact ⟨k, mem_indexed.2 hk⟩
    obtain ⟨ks, hks⟩ := forall2_of_forall w hks
    exact ⟨ks, (run_spec follow symOf endPos inputs st hb hc hw w ks hks S i hS).2 ⟨q, hqS, hAcc⟩⟩
  have tgt : ∀ t ∈ st.trans, ∃ ks, Min.accFrom (assemble st endPos inputs) t.2.2 ks = true := by
    intro t ht
    obtain ⟨S, x, _, _, hne', d1⟩ := hb.tr t ht
    obtain ⟨q, hq⟩ := List.exists_mem_of_ne_nil _ hne'
    obtain ⟨p, _, _, hqp⟩ := (mem_targetSet follow symOf).1 hq
    exact key _ _ d1 ⟨q, hq, hfollow p q hqp, hpos q (.inr ⟨p, hqp⟩)⟩
  intro q hq
  rcases Min.mem_states.1 hq with rfl | ⟨t, ht, rfl | rfl⟩
  · obtain ⟨q, hq⟩ := List.exists_mem_of_ne_nil _ hne
    exact key _ _ hstart ⟨q, Min.mem_normSet.2 hq, hfirst q hq, hpos q (.inl hq)⟩
  · obtain ⟨ks, hks⟩ := tgt t ht
    refine ⟨t.2.1 :: ks, ?_⟩
    rw [Min.accFrom_cons, Min.step_of_mem hwf.2.1 ht]
    exact hks
  · exact tgt t ht

end BuildWF

theorem buildAuto_WF (σ : Schedule) (r : Regex) (symOf : Nat → Option Inp) (a : Auto)
    (h : buildAuto σ r symOf = some a) : Min.WF a := by
  obtain ⟨st, hloop, rfl⟩ := buildAuto_eq_some.1 h
  exact BuildWF.buildLoop_WF σ _ r.follow symOf r.endPos _ _ st hloop

theorem buildAuto_access (σ : Schedule) (r : Regex) (symOf : Nat → Option Inp) (a : Auto)
    (h : buildAuto σ r symOf = some a) : Min.Access a := by
  obtain ⟨st, hloop, rfl⟩ := buildAuto_eq_some.1 h
  exact BuildWF.buildLoop_access σ _ r.follow symOf r.endPos _ _ st hloop

theorem walk_acc (fo : Nat → List Nat) (symOf : Nat → Option Inp) (e : Nat)
    (hsym : ∀ p, p < e → (symOf p).isSome) (hfo : ∀ p q, q ∈ fo p → q ≤ e) :
    ∀ (w : List Nat) (p : Nat), p ≤ e → Walk fo [e] p w → ∃ w', Subset.Acc fo symOf e p w'
  | [], p, _, h => by
    simp only [Walk, List.mem_singleton] at h
    exact ⟨[], by simp [Subset.Acc, h]⟩
  | x :: w, p, hp, h => by
    simp only [Walk] at h
    rcases Nat.lt_or_eq_of_le hp with hlt | heq
    · obtain ⟨s, hs⟩ := Option.isSome_iff_exists.1 (hsym p hlt)
      obtain ⟨w', hw'⟩ := walk_acc fo symOf e hsym hfo w x (hfo p x h.1) h.2
      exact ⟨s :: w', by simp only [Subset.Acc]; exact ⟨hs, x, h.1, hw'⟩⟩
    · exact ⟨[], by simp [Subset.Acc, heq]⟩

theorem Regex.pos_coacc (r : Regex) (symOf : Nat → Option Inp) (hl : r.root.Linear)
    (hpos : ∀ q ∈ r.root.positions, q < r.endPos) (hne : r.root.NoEmptyOr)
    (hsym : ∀ p, p < r.endPos → (symOf p).isSome) :
    r.first ≠ [] ∧ ∀ q ∈ r.full.positions, ∃ w, Subset.Acc r.follow symOf r.endPos q w := by
  have hfl : r.full.Linear := Rx.linear_end hl (fun h => Nat.lt_irrefl _ (hpos _ h))
  have hfne : r.full.NoEmptyOr := by
    simp only [Regex.full, Rx.NoEmptyOr, RxL.NoEmptyOr, and_true]
    exact hne
  have hple := Regex.full_positions_le (fun q hq => Nat.le_of_lt (hpos q hq))
  constructor
  · obtain ⟨w, hw⟩ := Rx.lang_nonempty r.full hfne
    cases w with
    | nil =>
      have := (Rx.lang_nil_iff r.full).1 hw
      simp [Regex.full, Rx.nullable, Rx.nullableAll] at this
    | cons x w =>
      have := ((Rx.lang_cons r.full hfl x w).1 hw).1
      exact List.ne_nil_of_mem this
  · intro q hq
    obtain ⟨w, hw⟩ := Rx.after_nonempty r.full hfne q hq
    rw [Rx.after_iff_walk r.full hfl, Regex.full_last] at hw
    exact walk_acc r.follow symOf r.endPos hsym
      (fun p q hq => hple q (Rx.follow_sub _ p q hq)) w q (hple q hq) hw

/-- `hne` is needed: `or []` has the empty language, and a position before it could not reach the end
marker. -/
theorem buildAuto_coacc (σ : Schedule) (r : Regex) (symOf : Nat → Option Inp) (a : Auto)
    (hl : r.root.Linear) (hpos : ∀ q ∈ r.root.positions, q < r.endPos) (hne : r.root.NoEmptyOr)
    (hsym : ∀ p, p < r.inputs.length → (symOf p).isSome)
    (hend : symOf r.endPos = none)
    (h : buildAuto σ r symOf = some a) : Min.CoAcc a := by
  obtain ⟨h1, h3⟩ := Regex.pos_coacc r symOf hl hpos hne hsym
  obtain ⟨hfollow, hfirst⟩ := Regex.first_follow_le (fun q hq => Nat.le_of_lt (hpos q hq))
  obtain ⟨st, hloop, rfl⟩ := buildAuto_eq_some.1 h
  refine BuildWF.buildLoop_coacc σ r.first r.follow symOf r.endPos _ _ st
    (fun _ => Subset.mem_symbols) hend hfollow hfirst h1 ?_ hloop
  rintro q (hq | ⟨p, hq⟩)
  · exact h3 q (Rx.first_sub _ q hq)
  · exact h3 q (Rx.follow_sub _ p q hq)

theorem buildAuto_ofExpr_coacc (σ : Schedule) (e : Expr) (pool : RxPool)
    (symOf : Nat → Option Inp) (a : Auto) (hne : e.NoEmptyAlt)
    (hsym : ∀ p, p < e.leafCount → (symOf p).isSome)
    (hend : symOf e.leafCount = none)
    (h : buildAuto σ (Regex.ofExpr e pool).1 symOf = some a) : Min.CoAcc a := by
  have hendPos := Regex.ofExpr_endPos e pool
  refine buildAuto_coacc σ _ symOf a (Regex.ofExpr_linear e pool).1 (Regex.ofExpr_positions_lt e pool)
    ?_ (fun p hp => hsym p (hendPos ▸ hp)) (by rw [hendPos]; exact hend) h
  rw [Regex.ofExpr_root]
  exact rxOfExpr_noEmptyOr e _ hne

end Complgen
