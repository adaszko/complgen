/-
C02 / C15: the dependency-ordered expansion of check.rs (`get_nonterminals_resolution_order` +
`resolve_nonterminals`) computes the fixpoint expansion of the specification (`Spec.expand`).
-/
import Complgen.Proofs.Warn
import Complgen.Proofs.Topo
namespace Complgen.Check

mutual
/-- the fuel `Spec.expand` needs for the structure of an expression (not counting definitions) -/
def depth : Expr → Nat
  | .seq cs _ | .alt cs _ | .fb cs _ => depthL cs + 1
  | .opt c _ | .many1 c _ | .sub c _ _ | .dd c _ _ => depth c + 1
  | _ => 1
def depthL : ExprL → Nat
  | .nil => 0
  | .cons e es => max (depth e + 1) (depthL es)
end

/-- what the expansion loop has to have established about a name before an expression that refers to
it is expanded: the table holds the complete expansion of its definition -/
def Good (sh : Shell) (g : Grammar) (acc : AList (Span × Expr)) (H : Nat) (n : String) : Prop :=
  match Spec.pick sh g n with
  | .expr d => ∃ sp b, acc.get? n = some (sp, b) ∧ ∀ k, H ≤ k → Spec.expand sh g k (Spec.distr d none).1 = b
  | .anyWord => acc.get? n = none
  | .command _ _ => True

/-- a node costs one unit of fuel -/
theorem fuel_pos {d k : Nat} (h : d + 1 ≤ k) : ∃ k', k = k' + 1 ∧ d ≤ k' := ⟨k - 1, by omega⟩

theorem fuel_succ {d H k : Nat} (h : d + 1 + H ≤ k) : ∃ k', k = k' + 1 ∧ d + H ≤ k' :=
  fuel_pos (Nat.add_right_comm d 1 H ▸ h)

mutual
theorem resolve_eq_expand (sh : Shell) (g : Grammar) (acc : AList (Span × Expr)) (H : Nat) :
    ∀ (e : Expr) (u : AList Span), NoDD e = true → (∀ n ∈ Spec.names e, Good sh g acc H n) →
      ∀ k, depth e + H ≤ k → Spec.expand sh g k e = (resolve acc (applyPick sh g e) u).1
  | .term .. | .cmd .. => fun _ _ _ k _ => by cases k <;> simp only [Spec.expand, applyPick, resolve]
  | .dd .. => fun _ h => nomatch h
  | .nonterm n l s => fun u _ hg k hk => by
    have hgood := hg n (List.mem_singleton_self n)
    obtain ⟨k', rfl, hk'⟩ := fuel_succ (d := 0) hk
    unfold Good at hgood
    simp only [Spec.expand, applyPick]
    cases hp : Spec.pick sh g n with
    | command c a => simp only [resolve]
    | anyWord =>
      rw [hp] at hgood
      simp only [resolve, hgood]
    | expr d =>
      rw [hp] at hgood
      obtain ⟨sp, b, hget, hst⟩ := hgood
      simp only [resolve, hget]
      exact hst k' (Nat.zero_add H ▸ hk')
  | .sub c _ _ | .opt c _ | .many1 c _ => fun u h hg k hk => by
    obtain ⟨k', rfl, hk'⟩ := fuel_succ hk
    simp only [Spec.expand, applyPick, resolve, resolve_eq_expand sh g acc H c u h hg k' hk']
  | .seq cs _ | .alt cs _ | .fb cs _ => fun u h hg k hk => by
    obtain ⟨k', rfl, hk'⟩ := fuel_succ hk
    simp only [Spec.expand, applyPick, resolve, resolveL_eq_expand sh g acc H cs u h hg k' hk']
theorem resolveL_eq_expand (sh : Shell) (g : Grammar) (acc : AList (Span × Expr)) (H : Nat) :
    ∀ (es : ExprL) (u : AList Span), NoDDL es = true → (∀ n ∈ Spec.namesL es, Good sh g acc H n) →
      ∀ k, depthL es + H ≤ k → Spec.expandL sh g k es = (resolveL acc (applyPickL sh g es) u).1
  | .nil => fun _ _ _ k _ => by cases k <;> simp only [Spec.expandL, applyPickL, resolveL]
  | .cons e es => fun u h hg k hk => by
    -- the head is expanded with one unit less, the tail with the same fuel
    obtain ⟨k', rfl, hk1⟩ := fuel_succ (Nat.le_trans (Nat.add_le_add_right (Nat.le_max_left ..) H) hk)
    have hk2 : depthL es + H ≤ k' + 1 := Nat.le_trans (Nat.add_le_add_right (Nat.le_max_right ..) H) hk
    have h1 := resolve_eq_expand sh g acc H e u (noDDL_cons.mp h).1
      (fun n hn => hg n (List.mem_append_left _ hn)) k' hk1
    have h2 := resolveL_eq_expand sh g acc H es (resolve acc (applyPick sh g e) u).2 (noDDL_cons.mp h).2
      (fun n hn => hg n (List.mem_append_right _ hn)) (k' + 1) hk2
    simp only [Spec.expandL, applyPickL, resolveL, h1, h2]
end

def tableOf (sh : Shell) (g : Grammar) : AList (Span × Expr) :=
  (plainDefs g).map fun x => (x.1, (x.2.1, applyPick sh g (distribute x.2.2)))

def Done (sh : Shell) (g : Grammar) (acc : AList (Span × Expr)) (H : Nat) (m : String) : Prop :=
  ∀ x, (plainDefs g).find? (·.1 == m) = some x →
    ∃ sp b, acc.get? m = some (sp, b) ∧ ∀ k, H ≤ k → Spec.expand sh g k (Spec.distr x.2.2 none).1 = b

/-- what the definition of `m` adds to the fuel bound: the depth of its body, and one for the reference -/
def wOf (g : Grammar) (m : String) : Nat :=
  match (plainDefs g).find? (·.1 == m) with
  | some x => depth (distribute x.2.2) + 1
  | none => 0

/-- the fuel from which on the expansions of the names of `P` are complete -/
def Hb (g : Grammar) (P : List String) : Nat := (P.map (wOf g)).sum

def depNames (D : AList (Span × Expr)) (n : String) : List String :=
  match D.get? n with
  | some (_, b) => (Spec.names b).filter fun m => D.contains m
  | none => []

theorem tableOf_get (sh : Shell) (g : Grammar) (n : String) :
    (tableOf sh g).get? n =
      ((plainDefs g).find? (·.1 == n)).map fun x => (x.2.1, applyPick sh g (distribute x.2.2)) := by
  unfold tableOf AList.get?
  have := find?_map_key (fun x : String × Span × Expr => (x.1, (x.2.1, applyPick sh g (distribute x.2.2))))
    (fun _ => rfl) n (plainDefs g)
  rw [this]
  simp [Option.map_map, Function.comp_def]

mutual
theorem names_applyPick (sh : Shell) (g : Grammar) : ∀ (e : Expr) (n : String), NoDD e = true → n ∈ Spec.names e →
    (∀ c a, Spec.pick sh g n ≠ .command c a) → n ∈ Spec.names (applyPick sh g e)
  | .term .. | .cmd .. => fun _ _ h _ => nomatch h
  | .dd .. => fun _ hd _ _ => nomatch hd
  | .nonterm m l s => fun n _ h hp => by
    cases List.eq_of_mem_singleton h
    unfold applyPick
    cases hpk : Spec.pick sh g m with
    | command c a => exact absurd hpk (hp c a)
    | expr d => exact h
    | anyWord => exact h
  | .sub c _ _ | .opt c _ | .many1 c _ => names_applyPick sh g c
  | .seq cs _ | .alt cs _ | .fb cs _ => namesL_applyPick sh g cs
theorem namesL_applyPick (sh : Shell) (g : Grammar) : ∀ (es : ExprL) (n : String), NoDDL es = true → n ∈ Spec.namesL es →
    (∀ c a, Spec.pick sh g n ≠ .command c a) → n ∈ Spec.namesL (applyPickL sh g es)
  | .nil => fun _ _ h _ => nomatch h
  | .cons e es => fun n hd h hp =>
    List.mem_append.mpr <| (List.mem_append.mp h).imp
      (names_applyPick sh g e n (noDDL_cons.mp hd).1 · hp) (namesL_applyPick sh g es n (noDDL_cons.mp hd).2 · hp)
end

structure LoopInv (sh : Shell) (g : Grammar) (P : List String) (acc : AList (Span × Expr)) : Prop where
  keys : ∀ k, (acc.get? k).isSome = ((tableOf sh g).get? k).isSome
  rest : ∀ m, m ∉ P → acc.get? m = (tableOf sh g).get? m
  done : ∀ m ∈ P, Done sh g acc (Hb g P) m

/-- from `Done` (keyed by the first plain definition) for the names of `P` to `Good` (keyed by `Spec.pick`) for the
names of an expression all of whose dependencies are in `P` -/
theorem good_of_inv (sh : Shell) (g : Grammar) (P : List String) (acc : AList (Span × Expr))
    (inv : LoopInv sh g P acc) (e : Expr) (hd : NoDD e = true)
    (hdeps : ∀ m ∈ Spec.names (applyPick sh g e), (tableOf sh g).contains m = true → m ∈ P) :
    ∀ n ∈ Spec.names e, Good sh g acc (Hb g P) n := by
  intro n hn
  unfold Good
  cases hp : Spec.pick sh g n with
  | command c a => trivial
  | anyWord =>
    simp only
    have hnone := plainFor_of_pick_anyWord sh g n hp
    rw [findSome?_plainFor] at hnone
    have hk := inv.keys n
    rw [tableOf_get] at hk
    cases hf : (plainDefs g).find? (·.1 == n) with
    | some x => rw [hf] at hnone; cases hnone
    | none =>
      rw [hf] at hk
      cases hg : acc.get? n with
      | none => rfl
      | some v => rw [hg] at hk; cases hk
  | expr d =>
    simp only
    have hsome := plainFor_of_pick_expr sh g n d hp
    rw [findSome?_plainFor] at hsome
    cases hf : (plainDefs g).find? (·.1 == n) with
    | none => rw [hf] at hsome; cases hsome
    | some x =>
      rw [hf] at hsome
      simp only [Option.map_some, Option.some.injEq] at hsome
      have hmem : n ∈ Spec.names (applyPick sh g e) :=
        names_applyPick sh g e n hd hn (by intro c a h; rw [hp] at h; cases h)
      have hcont : (tableOf sh g).contains n = true :=
        contains_of_get?_isSome _ n (by rw [tableOf_get, hf]; rfl)
      obtain ⟨sp, b, hget, hst⟩ := inv.done n (hdeps n hmem hcont) x hf
      exact ⟨sp, b, hget, by rw [← hsome]; exact hst⟩

theorem le_sum_map {α} (f : α → Nat) (m : α) : ∀ P : List α, m ∈ P → f m ≤ (P.map f).sum
  | p :: P, h => by
    rw [List.map_cons, List.sum_cons]
    rcases List.mem_cons.mp h with rfl | h
    · omega
    · have := le_sum_map f m P h; omega

mutual
theorem resolve_noop (D : AList (Span × Expr)) : ∀ (x : Expr) (u : AList Span),
    (∀ n ∈ Spec.names x, D.get? n = none) → (resolve D x u).1 = x
  | .term .. | .cmd .. | .dd .. => fun _ _ => rfl
  | .nonterm n l s => fun u h => by simp only [resolve, h n (List.mem_singleton_self n)]
  | .sub c l s => fun u h => congrArg (Expr.sub · l s) (resolve_noop D c u h)
  | .opt c s => fun u h => congrArg (Expr.opt · s) (resolve_noop D c u h)
  | .many1 c s => fun u h => congrArg (Expr.many1 · s) (resolve_noop D c u h)
  | .seq cs s => fun u h => congrArg (Expr.seq · s) (resolveL_noop D cs u h)
  | .alt cs s => fun u h => congrArg (Expr.alt · s) (resolveL_noop D cs u h)
  | .fb cs s => fun u h => congrArg (Expr.fb · s) (resolveL_noop D cs u h)
theorem resolveL_noop (D : AList (Span × Expr)) : ∀ (xs : ExprL) (u : AList Span),
    (∀ n ∈ Spec.namesL xs, D.get? n = none) → (resolveL D xs u).1 = xs
  | .nil => fun _ _ => rfl
  | .cons e es => fun u h =>
    cons_congr (resolve_noop D e u fun n hn => h n (List.mem_append_left _ hn))
      (resolveL_noop D es _ fun n hn => h n (List.mem_append_right _ hn))
end

/-- the start of the loop: `resolutionOrder` leaves the definitions that refer to no definition out of the order
it returns, so they count as processed from the beginning; their start entry is their expansion already -/
theorem loop_init (sh : Shell) (g : Grammar) (P0 : List String)
    (hleaf : ∀ m ∈ P0, depNames (tableOf sh g) m = []) : LoopInv sh g P0 (tableOf sh g) := by
  refine ⟨fun _ => rfl, fun _ _ => rfl, ?_⟩
  intro m hm x hx
  have htab := tableOf_get sh g m
  rw [hx] at htab
  simp only [Option.map_some] at htab
  refine ⟨x.2.1, applyPick sh g (distribute x.2.2), htab, ?_⟩
  intro k hk
  have hdd : NoDD (distribute x.2.2) = true := distribute_noDD _
  have hcl := hleaf m hm
  unfold depNames at hcl
  rw [htab] at hcl
  simp only at hcl
  have hno : ∀ n ∈ Spec.names (applyPick sh g (distribute x.2.2)), (tableOf sh g).contains n = false := by
    intro n hn
    cases hc : (tableOf sh g).contains n with
    | false => rfl
    | true =>
      have : n ∈ (Spec.names (applyPick sh g (distribute x.2.2))).filter fun m => (tableOf sh g).contains m :=
        List.mem_filter.mpr ⟨hn, hc⟩
      rw [hcl] at this; cases this
  have inv0 : LoopInv sh g [] (tableOf sh g) := ⟨fun _ => rfl, fun _ _ => rfl, fun _ h => by cases h⟩
  have hgood := good_of_inv sh g [] (tableOf sh g) inv0 (distribute x.2.2) hdd
    (fun n hn hc => by rw [hno n hn] at hc; cases hc)
  have hw : depth (distribute x.2.2) + 1 ≤ Hb g P0 := by
    have := le_sum_map (wOf g) m P0 hm
    unfold wOf at this
    rw [hx] at this
    exact this
  rw [← distribute_eq_spec,
    resolve_eq_expand sh g (tableOf sh g) (Hb g []) (distribute x.2.2) [] hdd hgood k (by simp [Hb]; omega)]
  exact resolve_noop _ _ _ (fun n hn => get?_none_of_contains_false _ _ (hno n hn))

theorem get?_map_replace {α} (n : String) (v : α) (m : AList α) (k : String) :
    AList.get? (m.map fun p => if p.1 == n then (n, v) else p) k =
      if k = n then (m.get? n).map (fun _ => v) else m.get? k := by
  unfold AList.get?
  rw [find?_map_key (fun p : String × α => if p.1 == n then (n, v) else p)
    (fun p => by by_cases h : p.1 = n <;> simp [h]) k m]
  cases hf : m.find? (·.1 == k) with
  | none =>
    by_cases hk : k = n
    · subst hk; simp [hf]
    · simp [hk]
  | some p =>
    have hp : p.1 = k := by simpa using List.find?_some hf
    by_cases hk : k = n
    · subst hk; simp [hf, hp]
    · simp [hk, hp]

theorem resStep_get? (acc : AList (Span × Expr)) (u : AList Span) (n : String) (s : Span) (e : Expr)
    (hacc : acc.get? n = some (s, e)) (k : String) :
    (resStep (acc, u) n).1.get? k = if k = n then some (s, (resolve acc e u).1) else acc.get? k := by
  unfold resStep
  simp only [hacc]
  rw [get?_map_replace, hacc]
  rfl

/-- the bookkeeping every invariant of the loop shares -/
theorem resStep_keys_rest (D : AList (Span × Expr)) (P : List String) (acc : AList (Span × Expr)) (u : AList Span)
    (n : String) (s : Span) (e : Expr) (hkeys : ∀ k, (acc.get? k).isSome = (D.get? k).isSome)
    (hrest : ∀ m, m ∉ P → acc.get? m = D.get? m) (hacc : acc.get? n = some (s, e)) :
    (∀ k, ((resStep (acc, u) n).1.get? k).isSome = (D.get? k).isSome) ∧
    (∀ m, m ∉ n :: P → (resStep (acc, u) n).1.get? m = D.get? m) := by
  refine ⟨fun k => ?_, fun m hm => ?_⟩
  · rw [resStep_get? acc u n s e hacc, ← hkeys k]
    split
    · next hk => rw [hk, hacc]; rfl
    · rfl
  · rw [resStep_get? acc u n s e hacc, if_neg fun (e : m = n) => hm (e ▸ List.mem_cons_self)]
    exact hrest m fun h => hm (List.mem_cons_of_mem _ h)

theorem Hb_cons (g : Grammar) (n : String) (P : List String) : Hb g (n :: P) = wOf g n + Hb g P := rfl

theorem Done_mono (sh : Shell) (g : Grammar) (acc : AList (Span × Expr)) (H H' : Nat) (m : String)
    (hle : H ≤ H') (h : Done sh g acc H m) : Done sh g acc H' m := by
  intro x hx
  obtain ⟨sp, b, hg, hst⟩ := h x hx
  exact ⟨sp, b, hg, fun k hk => hst k (Nat.le_trans hle hk)⟩

theorem resStep_loop (sh : Shell) (g : Grammar) (P : List String) (acc : AList (Span × Expr)) (u : AList Span)
    (n : String) (inv : LoopInv sh g P acc) (hn : n ∉ P) (hkey : ((tableOf sh g).get? n).isSome = true)
    (hdeps : ∀ m ∈ depNames (tableOf sh g) n, m ∈ P) :
    LoopInv sh g (n :: P) (resStep (acc, u) n).1 := by
  have htab := tableOf_get sh g n
  cases hf : (plainDefs g).find? (·.1 == n) with
  | none => rw [htab, hf] at hkey; cases hkey
  | some x =>
    rw [hf] at htab
    simp only [Option.map_some] at htab
    have hacc : acc.get? n = some (x.2.1, applyPick sh g (distribute x.2.2)) := by
      rw [inv.rest n hn, htab]
    have hdd : NoDD (distribute x.2.2) = true := distribute_noDD _
    have hgood : ∀ m ∈ Spec.names (distribute x.2.2), Good sh g acc (Hb g P) m := by
      apply good_of_inv sh g P acc inv (distribute x.2.2) hdd
      intro m hm hc
      apply hdeps
      unfold depNames
      rw [htab]
      exact List.mem_filter.mpr ⟨hm, hc⟩
    obtain ⟨hkeys, hrest⟩ := resStep_keys_rest _ P acc u n _ _ inv.keys inv.rest hacc
    refine ⟨hkeys, hrest, ?_⟩
    · intro m hm
      by_cases hmn : m = n
      · subst hmn
        intro x' hx'
        rw [hf] at hx'
        cases hx'
        refine ⟨x.2.1, (resolve acc (applyPick sh g (distribute x.2.2)) u).1, ?_, ?_⟩
        · rw [resStep_get? acc u m _ _ hacc, if_pos rfl]
        · intro k hk
          rw [← distribute_eq_spec]
          apply resolve_eq_expand sh g acc (Hb g P) (distribute x.2.2) u hdd hgood k
          rw [Hb_cons] at hk
          unfold wOf at hk
          rw [hf] at hk
          simp only at hk
          omega
      · have hmP : m ∈ P := by
          rcases List.mem_cons.mp hm with h | h
          · exact absurd h hmn
          · exact h
        have := Done_mono sh g acc (Hb g P) (Hb g (n :: P)) m (by rw [Hb_cons]; omega) (inv.done m hmP)
        intro x' hx'
        obtain ⟨sp, b, hg, hst⟩ := this x' hx'
        refine ⟨sp, b, ?_, hst⟩
        rw [resStep_get? acc u n _ _ hacc, if_neg hmn]
        exact hg

def Sched (D : AList (Span × Expr)) : List String → List String → Prop
  | _, [] => True
  | P, n :: rest => n ∉ P ∧ (D.get? n).isSome = true ∧ (∀ m ∈ depNames D n, m ∈ P) ∧ Sched D (n :: P) rest

theorem resFold_sched (D : AList (Span × Expr)) (Inv : List String → AList (Span × Expr) → Prop)
    (step : ∀ P acc u n, Inv P acc → n ∉ P → (D.get? n).isSome = true → (∀ m ∈ depNames D n, m ∈ P) →
      Inv (n :: P) (resStep (acc, u) n).1) :
    ∀ (order P : List String) (acc : AList (Span × Expr)) (u : AList Span), Inv P acc →
      Sched D P order → Inv (order.reverse ++ P) (order.foldl resStep (acc, u)).1
  | [], P, acc, u, inv, _ => by simpa using inv
  | n :: rest, P, acc, u, inv, hs => by
    obtain ⟨hn, hkey, hdeps, hs'⟩ := hs
    have h2 := resFold_sched D Inv step rest (n :: P) (resStep (acc, u) n).1 (resStep (acc, u) n).2
      (step P acc u n inv hn hkey hdeps) hs'
    simp only [List.foldl_cons, List.reverse_cons, List.append_assoc, List.singleton_append]
    exact h2

theorem resFold_loop (sh : Shell) (g : Grammar) :
    ∀ (order P : List String) (acc : AList (Span × Expr)) (u : AList Span), LoopInv sh g P acc →
      Sched (tableOf sh g) P order → LoopInv sh g (order.reverse ++ P) (order.foldl resStep (acc, u)).1 :=
  resFold_sched (tableOf sh g) (LoopInv sh g) (resStep_loop sh g)

/-- **The expansion loop computes the specification's expansion**: after the loop has run over a
schedule that covers every definition, resolving the (specialised) call variants against its table
gives `Spec.expand` of the call variants, for every fuel from an explicit bound on. -/
theorem loop_top (sh : Shell) (g : Grammar) (P : List String) (acc : AList (Span × Expr))
    (inv : LoopInv sh g P acc) (hall : ∀ m, (tableOf sh g).contains m = true → m ∈ P)
    (e : Expr) (hd : NoDD e = true) (u : AList Span) (k : Nat) (hk : depth e + Hb g P ≤ k) :
    Spec.expand sh g k e = (resolve acc (applyPick sh g e) u).1 :=
  resolve_eq_expand sh g acc (Hb g P) e u hd
    (good_of_inv sh g P acc inv e hd (fun m _ hc => hall m hc)) k hk

/-! ### the expanded table does not depend on the `unused` bookkeeping carried along -/

mutual
theorem resolve_fst_indep (defs : AList (Span × Expr)) : ∀ (e : Expr) (u u' : AList Span),
    (resolve defs e u).1 = (resolve defs e u').1
  | .term .. | .cmd .. | .dd .. => fun _ _ => rfl
  | .nonterm n l s => fun u u' => by
    simp only [resolve]
    cases defs.get? n <;> rfl
  | .sub c l s => fun u u' => congrArg (Expr.sub · l s) (resolve_fst_indep defs c u u')
  | .opt c s => fun u u' => congrArg (Expr.opt · s) (resolve_fst_indep defs c u u')
  | .many1 c s => fun u u' => congrArg (Expr.many1 · s) (resolve_fst_indep defs c u u')
  | .seq cs s => fun u u' => congrArg (Expr.seq · s) (resolveL_fst_indep defs cs u u')
  | .alt cs s => fun u u' => congrArg (Expr.alt · s) (resolveL_fst_indep defs cs u u')
  | .fb cs s => fun u u' => congrArg (Expr.fb · s) (resolveL_fst_indep defs cs u u')
theorem resolveL_fst_indep (defs : AList (Span × Expr)) : ∀ (es : ExprL) (u u' : AList Span),
    (resolveL defs es u).1 = (resolveL defs es u').1
  | .nil => fun _ _ => rfl
  | .cons e es => fun u u' => by
    simp only [resolveL]
    rw [resolve_fst_indep defs e u u', resolveL_fst_indep defs es (resolve defs e u).2 (resolve defs e u').2]
end

theorem resStep_fst_indep (T : AList (Span × Expr)) (u u' : AList Span) (n : String) :
    (resStep (T, u) n).1 = (resStep (T, u') n).1 := by
  unfold resStep
  simp only
  cases AList.get? T n with
  | none => rfl
  | some v =>
    obtain ⟨s, e⟩ := v
    simp only
    rw [resolve_fst_indep T e u u']

theorem resFold_fst_indep : ∀ (order : List String) (T : AList (Span × Expr)) (u u' : AList Span),
    (order.foldl resStep (T, u)).1 = (order.foldl resStep (T, u')).1
  | [], _, _, _ => rfl
  | n :: rest, T, u, u' => by
    simp only [List.foldl_cons]
    have h := resStep_fst_indep T u u' n
    have e1 : resStep (T, u) n = ((resStep (T, u) n).1, (resStep (T, u) n).2) := rfl
    have e2 : resStep (T, u') n = ((resStep (T, u) n).1, (resStep (T, u') n).2) := by rw [h]
    rw [e1, e2]
    exact resFold_fst_indep rest _ _ _

/-! ### the fuel bound `Hb` is at most the sizes of the definitions, which is what `Spec.meaning` provides -/

mutual
theorem depth_le_size : ∀ e : Expr, depth e + 1 ≤ 2 * Spec.size e
  | .term .. | .cmd .. | .nonterm .. => Nat.le_refl 2
  -- one node more: the depth grows by 1, twice the size by 2
  | .dd c _ _ | .sub c _ _ | .opt c _ | .many1 c _ => Nat.le_succ_of_le (Nat.succ_le_succ (depth_le_size c))
  | .seq cs _ | .alt cs _ | .fb cs _ => Nat.succ_le_succ (Nat.succ_le_succ (depthL_le_size cs))
theorem depthL_le_size : ∀ es : ExprL, depthL es ≤ 2 * Spec.sizeL es
  | .nil => Nat.le_refl 0
  | .cons e es => by
    have h1 := depth_le_size e
    have h2 := depthL_le_size es
    simp only [depthL, Spec.sizeL]
    omega
end

mutual
theorem size_distr : ∀ (e : Expr) (p : Option String), Spec.size (distr e p).1 ≤ Spec.size e
  | .term _ d _ _ => fun p => by cases d <;> cases p <;> exact Nat.le_refl 1
  | .nonterm .. | .cmd .. => fun _ => Nat.le_refl 1
  | .dd c d _ => fun _ => Nat.le_succ_of_le (size_distr c (some d))
  | .opt c _ | .many1 c _ | .sub c _ _ => fun p => Nat.succ_le_succ (size_distr c p)
  | .seq cs _ | .fb cs _ => fun p => Nat.succ_le_succ (sizeL_distrSeq cs p)
  | .alt cs _ => fun p => Nat.succ_le_succ (sizeL_distrAlt cs p)
theorem sizeL_distrSeq : ∀ (es : ExprL) (p : Option String), Spec.sizeL (distrSeq es p).1 ≤ Spec.sizeL es
  | .nil => fun _ => Nat.le_refl 0
  | .cons e es => fun p => Nat.add_le_add (size_distr e p) (sizeL_distrSeq es (distr e p).2)
theorem sizeL_distrAlt : ∀ (es : ExprL) (p : Option String), Spec.sizeL (distrAlt es p).1 ≤ Spec.sizeL es
  | .nil => fun _ => Nat.le_refl 0
  | .cons e es => fun p => Nat.add_le_add (size_distr e p) (sizeL_distrAlt es p)
end

theorem depth_distribute (e : Expr) : depth (distribute e) + 1 ≤ 2 * Spec.size e := by
  have h1 := depth_le_size (distribute e)
  have h2 : Spec.size (distribute e) ≤ Spec.size e := size_distr e none
  omega

def lookupW {α} (w : α → Nat) (L : AList α) (m : String) : Nat :=
  match L.find? (·.1 == m) with
  | some x => w x.2
  | none => 0

theorem lookupW_cons_ne {α} (w : α → Nat) (x : String × α) (L : AList α) (m : String) (h : x.1 ≠ m) :
    lookupW w (x :: L) m = lookupW w L m := by
  have : (x.1 == m) = false := by simpa using h
  simp [lookupW, this]

theorem sum_lookupW_step {α} (w : α → Nat) (x : String × α) (L : AList α) :
    ∀ P : List String, P.Nodup →
      (P.map (lookupW w (x :: L))).sum ≤ w x.2 + ((P.filter (· != x.1)).map (lookupW w L)).sum
  | [], _ => by simp
  | m :: Q, hnd => by
    have hQ := (List.nodup_cons.mp hnd).2
    have hm := (List.nodup_cons.mp hnd).1
    by_cases h : x.1 = m
    · have hall : ∀ q ∈ Q, x.1 ≠ q := fun q hq e => hm (by rw [← h, e]; exact hq)
      have h1 : (Q.map (lookupW w (x :: L))) = Q.map (lookupW w L) :=
        List.map_congr_left fun q hq => lookupW_cons_ne w x L q (hall q hq)
      have h2 : Q.filter (· != x.1) = Q := by
        apply List.filter_eq_self.mpr
        intro q hq
        have := hall q hq
        simpa using (Ne.symm this)
      have h3 : lookupW w (x :: L) m = w x.2 := by
        have : (x.1 == m) = true := by simpa using h
        simp [lookupW, this]
      have h4 : (m != x.1) = false := by simp [h]
      simp only [List.map_cons, List.sum_cons, List.filter_cons, h4, Bool.false_eq_true, if_false, h1, h2, h3]
      omega
    · have ih := sum_lookupW_step w x L Q hQ
      have h4 : (m != x.1) = true := by simpa using (Ne.symm h)
      simp only [List.map_cons, List.sum_cons, List.filter_cons, h4, if_true, lookupW_cons_ne w x L m h]
      omega

theorem sum_lookupW_le {α} (w : α → Nat) : ∀ (L : AList α) (P : List String), P.Nodup →
    (P.map (lookupW w L)).sum ≤ (L.map fun x => w x.2).sum
  | [], P, _ => by
    have : ∀ Q : List String, (Q.map (lookupW w [])).sum = 0 := by
      intro Q
      induction Q with
      | nil => rfl
      | cons q Q ih => simp [List.sum_cons, ih, lookupW]
    rw [this]; simp
  | x :: L, P, hnd => by
    have h1 := sum_lookupW_step w x L P hnd
    have h2 := sum_lookupW_le w L (P.filter (· != x.1)) (hnd.filter _)
    simp only [List.map_cons, List.sum_cons]
    omega

theorem sum_map_le {α} (f h : α → Nat) : ∀ l : List α, (∀ x ∈ l, f x ≤ h x) → (l.map f).sum ≤ (l.map h).sum
  | [], _ => by simp
  | x :: xs, hl => by
    have h1 := hl x (by simp)
    have h2 := sum_map_le f h xs (fun y hy => hl y (List.mem_cons_of_mem _ hy))
    simp only [List.map_cons, List.sum_cons]
    omega

theorem Hb_le (g : Grammar) (P : List String) (hnd : P.Nodup) :
    Hb g P ≤ ((plainDefs g).map fun x => 2 * Spec.size x.2.2).sum := by
  have hw : wOf g = lookupW (fun v : Span × Expr => depth (distribute v.2) + 1) (plainDefs g) := by
    funext m
    unfold wOf lookupW
    cases (plainDefs g).find? (·.1 == m) <;> rfl
  unfold Hb
  rw [hw]
  exact Nat.le_trans (sum_lookupW_le _ _ P hnd) (sum_map_le _ _ _ fun x _ => depth_distribute x.2.2)

end Complgen.Check
