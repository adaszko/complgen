/-
C12: the one-pass within-word matcher of the bash template (`BashRt.litPass`, `BashRt.subLoop`) on
literal sets with arbitrary prefix chains.  The fact it relies on: the literal table lists literals
by decreasing length (dfa.rs `get_all_literals`), so a literal that could swallow the beginning of
the typed text is met only after every longer one that could match it exactly.

The pass is read through two facts.  Its outcome is that of the first literal at which one of its three
tests fires (`litTest`, `litPass_first`, `litPass_of_first`).  And the three tests at a literal `l` with an
entry in the row amount to two (`litTest_eq`): `l` is a prefix of the text — consume it; else, when
completing, the text is a prefix of `l` — stop.
-/
import Complgen.Proofs.Offer
namespace Complgen.BashRt

def litTest (mode : Mode) (row : List (Nat × Nat)) (sub : List Char) (id : Nat) (lit : String) : Option Step :=
  if sub == lit.toList && (toOf row id).isSome then some (.consumed ((toOf row id).getD 0) lit.toList.length)
  else if mode != .matchesMode && (toOf row id).isSome && isPrefix sub lit.toList then some .stop
  else if isPrefix lit.toList sub && (toOf row id).isSome then
    some (.consumed ((toOf row id).getD 0) lit.toList.length)
  else none

/-- the three tests, as two.  The first is the case `r = l` of the third; it is asked before the stop test,
which would fire on it too, so that a completely typed literal is consumed and not completed. -/
theorem litTest_eq (mode : Mode) (row : List (Nat × Nat)) (r : List Char) (id : Nat) (l : String) :
    litTest mode row r id l =
      match toOf row id with
      | none => none
      | some t =>
        if l.toList <+: r then some (.consumed t l.length)
        else if mode = .complete ∧ r <+: l.toList then some .stop else none := by
  unfold litTest
  cases toOf row id with
  | none => simp
  | some t =>
    simp only [Option.isSome_some, Bool.and_true, Option.getD_some, String.length_toList]
    by_cases hp : l.toList <+: r
    · by_cases he : r = l.toList
      · simp [he]
      · have : ¬ r <+: l.toList := fun h => he (h.eq_of_length_le hp.length_le)
        simp [he, hp, isPrefix_iff, this]
    · have he : r ≠ l.toList := fun e => hp (e ▸ List.prefix_refl _)
      cases mode <;> simp [he, hp, isPrefix_iff]

theorem litTest_eq_consumed_iff {mode : Mode} {row : List (Nat × Nat)} {r : List Char} {id : Nat} {l : String}
    {t n : Nat} : litTest mode row r id l = some (.consumed t n) ↔
      toOf row id = some t ∧ l.toList <+: r ∧ n = l.length := by
  rw [litTest_eq]
  cases toOf row id with
  | none => simp
  | some t' =>
    by_cases hp : l.toList <+: r
    · simp only [hp, if_true, Option.some.injEq, Step.consumed.injEq, true_and]
      exact and_congr_right fun _ => eq_comm
    · simp only [hp, if_false, false_and, and_false, iff_false]
      split <;> simp

theorem litTest_eq_stop_iff {mode : Mode} {row : List (Nat × Nat)} {r : List Char} {id : Nat} {l : String} :
    litTest mode row r id l = some .stop ↔
      mode = .complete ∧ (toOf row id).isSome = true ∧ r <+: l.toList ∧ r ≠ l.toList := by
  rw [litTest_eq]
  cases toOf row id with
  | none => simp
  | some t =>
    by_cases hp : l.toList <+: r
    · have : r <+: l.toList → r = l.toList := fun h => h.eq_of_length_le hp.length_le
      simp only [hp, if_true, Option.some.injEq, reduceCtorEq, Option.isSome_some, true_and, false_iff]
      exact fun h => h.2.2 (this h.2.1)
    · have he : r ≠ l.toList := fun e => hp (e ▸ List.prefix_refl _)
      simp only [hp, if_false, Option.isSome_some, true_and, he, ne_eq, not_false_eq_true, and_true,
        ite_eq_left_iff, reduceCtorEq, imp_false, Decidable.not_not]

theorem litTest_eq_none_iff {mode : Mode} {row : List (Nat × Nat)} {r : List Char} {id : Nat} {l : String} :
    litTest mode row r id l = none ↔
      ((toOf row id).isSome = true → ¬ l.toList <+: r ∧ (mode = .complete → ¬ r <+: l.toList)) := by
  rw [litTest_eq]
  cases toOf row id with
  | none => simp
  | some t =>
    by_cases hp : l.toList <+: r
    · simp [hp]
    · simp only [hp, if_false, Option.isSome_some, not_false_eq_true, true_and, forall_const,
        ite_eq_right_iff, reduceCtorEq, imp_false, not_and]

theorem litTest_ne_nothing (mode : Mode) (row : List (Nat × Nat)) (r : List Char) (id : Nat) (l : String) :
    litTest mode row r id l ≠ some .nothing := by
  rw [litTest_eq]
  split
  · simp
  · split
    · simp
    · split <;> simp

theorem litPass_cons (mode : Mode) (lits : List String) (row : List (Nat × Nat)) (sub : List Char) (id : Nat)
    (lit : String) (rest : List String) : litPass mode lits row sub id (lit :: rest) =
      (litTest mode row sub id lit).getD (litPass mode lits row sub (id + 1) rest) := by
  unfold litTest
  rw [litPass]
  split
  · rfl
  · split
    · rfl
    · split <;> rfl

theorem litPass_first (mode : Mode) (lits0 : List String) (row : List (Nat × Nat)) (r : List Char) :
    ∀ (rest : List String) (id : Nat),
      (litPass mode lits0 row r id rest = .nothing ∧
        ∀ j l, rest[j]? = some l → litTest mode row r (id + j) l = none) ∨
      ∃ j l, rest[j]? = some l ∧ litTest mode row r (id + j) l = some (litPass mode lits0 row r id rest) ∧
        ∀ i, i < j → ∀ l', rest[i]? = some l' → litTest mode row r (id + i) l' = none
  | [], _ => Or.inl ⟨rfl, fun j l hj => by simp at hj⟩
  | l :: rest, id => by
    rw [litPass_cons]
    cases ht : litTest mode row r id l with
    | some s => exact Or.inr ⟨0, l, rfl, ht, fun i hi => by omega⟩
    | none =>
      have shift : ∀ j, id + 1 + j = id + (j + 1) := fun j => by omega
      rcases litPass_first mode lits0 row r rest (id + 1) with ⟨hn, hall⟩ | ⟨j, l', hj, hs, hb⟩
      · refine Or.inl ⟨hn, fun j l' hj => ?_⟩
        cases j with
        | zero => cases hj; exact ht
        | succ j => rw [← shift]; exact hall j l' hj
      · refine Or.inr ⟨j + 1, l', hj, by rw [← shift]; exact hs, fun i hi l'' hl'' => ?_⟩
        cases i with
        | zero => cases hl''; exact ht
        | succ i => rw [← shift]; exact hb i (by omega) l'' hl''

theorem litPass_of_first {mode : Mode} {lits0 : List String} {row : List (Nat × Nat)} {r : List Char}
    {rest : List String} {id j : Nat} {l : String} {s : Step} (hj : rest[j]? = some l)
    (hs : litTest mode row r (id + j) l = some s)
    (hb : ∀ i, i < j → ∀ l', rest[i]? = some l' → litTest mode row r (id + i) l' = none) :
    litPass mode lits0 row r id rest = s := by
  rcases litPass_first mode lits0 row r rest id with ⟨_, hall⟩ | ⟨j', l', hj', hs', hb'⟩
  · rw [hall j l hj] at hs
    cases hs
  · rcases Nat.lt_trichotomy j' j with hlt | heq | hgt
    · rw [hb j' hlt l' hj'] at hs'
      cases hs'
    · subst heq
      rw [hj] at hj'
      cases hj'
      rw [hs] at hs'
      exact (Option.some.inj hs').symm
    · rw [hb' j hgt l hj] at hs
      cases hs

theorem litTest_none_of_nothing {mode : Mode} {lits0 : List String} {row : List (Nat × Nat)} {r : List Char}
    {rest : List String} {id : Nat} (h : litPass mode lits0 row r id rest = .nothing) :
    ∀ j l, rest[j]? = some l → litTest mode row r (id + j) l = none := by
  rcases litPass_first mode lits0 row r rest id with ⟨_, hall⟩ | ⟨j, l, _, hs, _⟩
  · exact hall
  · rw [h] at hs
    exact absurd hs (litTest_ne_nothing _ _ _ _ _)

theorem litPass_matches_exact (lits0 : List String) (row : List (Nat × Nat)) (v : String) (q' : Nat)
    (rest : List String) (id j : Nat) (h : rest[j]? = some v)
    (hb : ∀ i, i < j → ∀ l, rest[i]? = some l → l.length ≥ v.length ∧ l ≠ v)
    (ht : toOf row (id + j) = some q') :
    litPass .matchesMode lits0 row v.toList id rest = .consumed q' v.length := by
  refine litPass_of_first h (litTest_eq_consumed_iff.mpr ⟨ht, List.prefix_refl _, rfl⟩) fun i hi l hl => ?_
  obtain ⟨hlen, hne⟩ := hb i hi l hl
  -- a literal at least as long as `v` and different from it is no prefix of `v`
  refine litTest_eq_none_iff.mpr fun _ => ⟨fun hp => hne (String.toList_inj.mp ?_), fun hm => nomatch hm⟩
  exact hp.eq_of_length_le (by simpa [String.length_toList] using hlen)

/-- **Stopping for completion.**  In `complete` mode, when the typed text `p` is a proper prefix of a
literal expected here and the literals are listed by decreasing length, the pass stops (so that the
candidates of this point are offered) at the first such literal: no literal before it can consume
part of `p`. -/
theorem litPass_complete_stop (lits0 : List String) (row : List (Nat × Nat)) (p : List Char)
    (rest : List String) (id j : Nat) (lj : String) (h : rest[j]? = some lj)
    (ht : (toOf row (id + j)).isSome = true) (hp : isPrefix p lj.toList = true) (hne : p ≠ lj.toList)
    (hb : ∀ i, i < j → ∀ l, rest[i]? = some l → l.length ≥ lj.length ∧
        ¬ ((toOf row (id + i)).isSome = true ∧ isPrefix p l.toList = true)) :
    litPass .complete lits0 row p id rest = .stop := by
  have hp' : p <+: lj.toList := isPrefix_iff.mp hp
  refine litPass_of_first h (litTest_eq_stop_iff.mpr ⟨rfl, ht, hp', hne⟩) fun i hi l hl => ?_
  obtain ⟨hlen, hno⟩ := hb i hi l hl
  refine litTest_eq_none_iff.mpr fun hs => ⟨fun hl => ?_, fun _ hpl => hno ⟨hs, isPrefix_iff.mpr hpl⟩⟩
  -- a literal at least as long as `lj` cannot be a prefix of the shorter `p`
  have hlt : p.length < lj.toList.length :=
    Nat.lt_of_not_le fun hge => hne (hp'.eq_of_length_le hge)
  have := hl.length_le
  simp only [← String.length_toList] at hlen
  omega

theorem litPass_single (lits0 : List String) (ih q : Nat) (sub : List Char) (lh : String)
    (rest : List String) (id j : Nat) (h : rest[j]? = some lh) (hid : id + j = ih)
    (hp : isPrefix lh.toList sub = true)
    (mode : Mode) : litPass mode lits0 [(ih, q)] sub id rest = .consumed q lh.length := by
  subst hid
  refine litPass_of_first h (litTest_eq_consumed_iff.mpr ⟨?_, isPrefix_iff.mp hp, rfl⟩) fun i hi l hl => ?_
  · rw [toOf_cons, if_pos rfl]
  · have hno : toOf [(id + j, q)] (id + i) = none := by
      rw [toOf_cons, if_neg (by simp only; omega)]
      rfl
    exact litTest_eq_none_iff.mpr fun hs => by simp [hno] at hs

/-- **A fully typed value is recognised as that value** (`h(v₁|…|vₖ)`, any prefix chains among the
values): the within-word matcher of the template, in `matches` mode, reads `h ++ v` — the head at
the first point `q0`, the value `v` at the second `q1` — whenever the literal table lists every literal
before `v` at least as long as `v` (the decreasing-length order of dfa.rs).  Three rounds are used. -/
theorem overlap_match_gen (T : Tables) (out : Nat → List String) (h v : String) (q0 q1 ih iv q2 f : Nat)
    (row1 : List (Nat × Nat)) (hh : h.toList ≠ []) (hv : v.toList ≠ [])
    (hrow0 : rowOf T.litTrans q0 = some [(ih, q1)]) (hrow1 : rowOf T.litTrans q1 = some row1)
    (hlh : T.literals[ih]? = some h) (hlv : T.literals[iv]? = some v) (htv : toOf row1 iv = some q2)
    (hsorted : ∀ i, i < iv → ∀ l, T.literals[i]? = some l → l.length ≥ v.length ∧ l ≠ v) :
    subLoop T out .matchesMode (h ++ v).toList (f + 3) q0 0 = (q2, (h ++ v).toList.length, true) := by
  have hlen : (h ++ v).toList.length = h.length + v.length := by
    simp [String.toList_append, String.length_toList]
  have hhl : h.length ≠ 0 := fun e => hh (List.eq_nil_of_length_eq_zero (by rw [String.length_toList, e]))
  have hvl : v.length ≠ 0 := fun e => hv (List.eq_nil_of_length_eq_zero (by rw [String.length_toList, e]))
  have s0 : litStep T .matchesMode q0 (h ++ v).toList = .consumed q1 h.length := by
    rw [litStep_of_row hrow0]
    exact litPass_single T.literals ih q1 _ h T.literals 0 ih hlh (by omega)
      (by simp [isPrefix, String.toList_append]) _
  rw [subLoop_succ, if_neg (by omega), List.drop_zero, s0]
  simp only [hhl, if_false, Nat.zero_add]
  have s1 : litStep T .matchesMode q1 ((h ++ v).toList.drop h.length) = .consumed q2 v.length := by
    rw [litStep_of_row hrow1, String.toList_append, ← String.length_toList, List.drop_left]
    exact litPass_matches_exact T.literals row1 v q2 T.literals 0 iv hlv hsorted (by simpa using htv)
  rw [subLoop_succ, if_neg (by omega), s1]
  simp only [hvl, if_false]
  rw [subLoop_succ, if_pos (by omega), hlen]

/-- … from states 0 and 1, with the fuel `subMatches` gives. -/
theorem overlap_match (T : Tables) (out : Nat → List String) (h v : String) (ih iv q2 : Nat)
    (row1 : List (Nat × Nat)) (hh : h.toList ≠ []) (hv : v.toList ≠ [])
    (hrow0 : rowOf T.litTrans 0 = some [(ih, 1)]) (hrow1 : rowOf T.litTrans 1 = some row1)
    (hlh : T.literals[ih]? = some h) (hlv : T.literals[iv]? = some v) (htv : toOf row1 iv = some q2)
    (hhv : isPrefix (h ++ v).toList h.toList = false)
    (hsorted : ∀ i, i < iv → ∀ l, T.literals[i]? = some l → l.length ≥ v.length ∧ l ≠ v) :
    subLoop T out .matchesMode (h ++ v).toList ((h ++ v).toList.length + 1) 0 0 =
      (q2, (h ++ v).toList.length, true) := by
  have e : (h ++ v).toList.length + 1 = ((h ++ v).toList.length - 2) + 3 := by
    have := List.length_pos_iff.2 hh
    have := List.length_pos_iff.2 hv
    simp only [String.toList_append, List.length_append]
    omega
  rw [e]
  exact overlap_match_gen T out h v 0 1 ih iv q2 _ row1 hh hv hrow0 hrow1 hlh hlv htv hsorted

end Complgen.BashRt
