/-
**The within-word matcher of the emitted bash script follows the within-word automaton** — on
within-word automata all of whose transitions carry literals, whose literals out of one state are
non-empty and prefix-free among themselves, and where the literal transitions out of a state with one
text agree on the target.

`T` are the tables the emitter writes for the within-word automaton `s` (`SubOf T s`:
`T = Tables.ofAutoWith lits s cmds (fun _ => none)` for SOME order `lits` of the literal table that lists
the literals of `s`).  Over the model of `_<cmd>_subword` (`BashRt.litPass`, `BashRt.subLoop`,
`BashRt.subMatches`): the matching loop follows exactly the paths of literal transitions (`subLoop_run`,
`subMatches_iff`); in `complete` mode it reads as far as they go and offers the extending literals of the
least level (`subComplete_mem`); prefix-freeness cannot be dropped (`subMatches_iff_needs_prefixFree`).
`ofAuto_*`: the instance `Tables.ofAuto`.

NOTE (a recorded finding): the template returns "matched" as soon as the whole word is consumed; the
tables contain no accepting states.  So `subMatches` = "the word spells a path of literal transitions
from the start state", whatever the state the path ends in.
-/
import Complgen.Proofs.TemplateDfa
import Complgen.Proofs.Overlap
namespace Complgen.SubwordDfa
open BashRt Complgen.Tables Complgen.TemplateDfa

theorem litPass_matches_ne_stop (lits0 : List String) (row : List (Nat × Nat)) (r : List Char)
    (rest : List String) (id : Nat) : litPass .matchesMode lits0 row r id rest ≠ .stop := by
  intro h
  rcases litPass_first .matchesMode lits0 row r rest id with ⟨hn, _⟩ | ⟨j, l, _, hs, _⟩
  · rw [hn] at h
    cases h
  · rw [h] at hs
    exact nomatch (litTest_eq_stop_iff.mp hs).1

theorem litPass_consumed (mode : Mode) (lits0 : List String) (row : List (Nat × Nat)) (r : List Char) (t n : Nat)
    (rest : List String) (id : Nat) (h : litPass mode lits0 row r id rest = .consumed t n) :
    ∃ j l, rest[j]? = some l ∧ toOf row (id + j) = some t ∧ l.toList <+: r ∧ n = l.length := by
  rcases litPass_first mode lits0 row r rest id with ⟨hn, _⟩ | ⟨j, l, hj, hs, _⟩
  · rw [hn] at h
    cases h
  · rw [h] at hs
    exact ⟨j, l, hj, litTest_eq_consumed_iff.mp hs⟩

theorem litPass_stop (mode : Mode) (lits0 : List String) (row : List (Nat × Nat)) (r : List Char)
    (rest : List String) (id : Nat) (h : litPass mode lits0 row r id rest = .stop) :
    ∃ j l, rest[j]? = some l ∧ (toOf row (id + j)).isSome = true ∧ r <+: l.toList ∧ r ≠ l.toList := by
  rcases litPass_first mode lits0 row r rest id with ⟨hn, _⟩ | ⟨j, l, hj, hs, _⟩
  · rw [hn] at h
    cases h
  · rw [h] at hs
    exact ⟨j, l, hj, (litTest_eq_stop_iff.mp hs).2⟩

theorem litPass_nothing (mode : Mode) (lits0 : List String) (row : List (Nat × Nat)) (r : List Char)
    (rest : List String) (id : Nat) (h : litPass mode lits0 row r id rest = .nothing) (j : Nat) (l : String)
    (hj : rest[j]? = some l) (hs : (toOf row (id + j)).isSome = true) : ¬ l.toList <+: r :=
  (litTest_eq_none_iff.mp (litTest_none_of_nothing h j l hj) hs).1

theorem litPass_complete_nothing (lits0 : List String) (row : List (Nat × Nat)) (r : List Char) :
    ∀ (rest : List String) (id : Nat), litPass .complete lits0 row r id rest = .nothing →
      ∀ j l, rest[j]? = some l → (toOf row (id + j)).isSome = true → ¬ r <+: l.toList :=
  fun _ _ h j l hj hs => (litTest_eq_none_iff.mp (litTest_none_of_nothing h j l hj) hs).2 rfl

/-- bash.rs writes no within-word tables inside a within-word function: `subId := fun _ => none` -/
def SubOf (T : BashRt.Tables) (s : Auto) : Prop :=
  ∃ lits cmds, T = ofAutoWith lits s cmds (fun _ => none) ∧
    ∀ q txt d lvl t, HasEdge s q (.lit txt d lvl) t → (txt, d) ∈ lits

theorem subOf_ofAuto (s : Auto) (cmds : List String) : SubOf (ofAuto s cmds fun _ => none) s :=
  ⟨sortedLits s, cmds, rfl, fun _ _ _ _ _ he => sortedLits_cover_edge he⟩

def LitNonEmptyAt (s : Auto) (q : Nat) : Prop :=
  ∀ txt d l t, HasEdge s q (.lit txt d l) t → txt ≠ ""

def PrefixFreeAt (s : Auto) (q : Nat) : Prop :=
  ∀ x d l t y d' l' t', HasEdge s q (.lit x d l) t → HasEdge s q (.lit y d' l') t' →
    x.toList <+: y.toList → x = y

section step
variable {T : BashRt.Tables} {s : Auto}

theorem litStep_ne_stop (T : BashRt.Tables) (q : Nat) (r : List Char) : litStep T .matchesMode q r ≠ .stop := by
  unfold litStep
  cases rowOf T.litTrans q with
  | none => simp
  | some row => exact litPass_matches_ne_stop _ _ _ _ _

/-- Literals of the table that are not expected at `q` have no entry in the row of `q` and are skipped. -/
theorem litStep_sound (h : SubOf T s) {mode : Mode} {q : Nat} {r : List Char} {t n : Nat}
    (hs : litStep T mode q r = .consumed t n) :
    ∃ txt d l, HasEdge s q (.lit txt d l) t ∧ txt.toList <+: r ∧ n = txt.length := by
  unfold litStep at hs
  cases hr : rowOf T.litTrans q with
  | none => simp [hr] at hs
  | some row =>
    simp only [hr] at hs
    obtain ⟨j, l, hj, ht, hp, hn⟩ := litPass_consumed _ _ _ _ _ _ _ _ hs
    simp only [Nat.zero_add] at ht
    obtain ⟨lits, cmds, hT, _⟩ := h
    obtain ⟨d, lvl, he⟩ := lit_of_row_entry hT hr hj ht
    exact ⟨l, d, lvl, he, hp, hn⟩

theorem litStep_stop (h : SubOf T s) {mode : Mode} {q : Nat} {r : List Char}
    (hs : litStep T mode q r = .stop) :
    ∃ txt d l t, HasEdge s q (.lit txt d l) t ∧ r <+: txt.toList ∧ r ≠ txt.toList := by
  unfold litStep at hs
  cases hr : rowOf T.litTrans q with
  | none => simp [hr] at hs
  | some row =>
    simp only [hr] at hs
    obtain ⟨j, l, hj, ht, hp, hn⟩ := litPass_stop _ _ _ _ _ _ hs
    simp only [Nat.zero_add] at ht
    obtain ⟨t, ht'⟩ := Option.isSome_iff_exists.mp ht
    obtain ⟨lits, cmds, hT, _⟩ := h
    obtain ⟨d, lvl, he⟩ := lit_of_row_entry hT hr hj ht'
    exact ⟨l, d, lvl, t, he, hp, hn⟩

theorem litStep_nothing (h : SubOf T s) {mode : Mode} {q : Nat} {r : List Char}
    (hs : litStep T mode q r = .nothing) {txt : String} {d : Option String} {l t : Nat}
    (he : HasEdge s q (.lit txt d l) t) : ¬ txt.toList <+: r := by
  obtain ⟨lits, cmds, hT, hcov⟩ := h
  obtain ⟨row, k, t', hr, hk, ht⟩ := E1_row_some hT (hcov _ _ _ _ _ he) he
  unfold litStep at hs
  simp only [hr] at hs
  exact litPass_nothing _ _ _ _ _ _ hs k txt hk (by simp [ht])

theorem lit_edge_unique {q : Nat} (hdet : WordDetAt s q) (hpf : PrefixFreeAt s q) {r : List Char}
    {x y : String} {d d' : Option String} {l l' t t' : Nat} (he : HasEdge s q (.lit x d l) t)
    (he' : HasEdge s q (.lit y d' l') t') (hp : x.toList <+: r) (hp' : y.toList <+: r) : x = y ∧ t = t' := by
  have heq : x = y := by
    rcases Nat.le_total x.toList.length y.toList.length with hle | hle
    · exact hpf _ _ _ _ _ _ _ _ he he' (List.prefix_of_prefix_length_le hp hp' hle)
    · exact (hpf _ _ _ _ _ _ _ _ he' he (List.prefix_of_prefix_length_le hp' hp hle)).symm
  subst heq
  exact ⟨rfl, hdet _ _ _ _ _ _ _ he he'⟩

theorem litStep_consumed_iff (h : SubOf T s) {q : Nat} (hdet : WordDetAt s q) (hpf : PrefixFreeAt s q)
    (r : List Char) (t n : Nat) :
    litStep T .matchesMode q r = .consumed t n ↔
      ∃ txt d l, HasEdge s q (.lit txt d l) t ∧ txt.toList <+: r ∧ n = txt.length := by
  constructor
  · exact litStep_sound h
  · rintro ⟨txt, d, l, he, hp, rfl⟩
    cases hs : litStep T .matchesMode q r with
    | stop => exact absurd hs (litStep_ne_stop T q r)
    | nothing => exact absurd hp (litStep_nothing h hs he)
    | consumed t' n' =>
      obtain ⟨txt', d', l', he', hp', rfl⟩ := litStep_sound h hs
      obtain ⟨rfl, rfl⟩ := lit_edge_unique hdet hpf he he' hp hp'
      rfl

theorem litStep_nothing_iff (h : SubOf T s) {q : Nat} (r : List Char) :
    litStep T .matchesMode q r = .nothing ↔
      ∀ txt d l t, HasEdge s q (.lit txt d l) t → ¬ txt.toList <+: r := by
  constructor
  · intro hs txt d l t he
    exact litStep_nothing h hs he
  · intro hno
    cases hs : litStep T .matchesMode q r with
    | stop => exact absurd hs (litStep_ne_stop T q r)
    | nothing => rfl
    | consumed t n =>
      obtain ⟨txt, d, l, he, hp, _⟩ := litStep_sound h hs
      exact absurd hp (hno txt d l t he)

theorem litPass_step (h : SubOf T s) {q : Nat} (hdet : WordDetAt s q) (hpf : PrefixFreeAt s q)
    {row : List (Nat × Nat)} (hr : rowOf T.litTrans q = some row) (r : List Char) :
    (∀ t n, litPass .matchesMode T.literals row r 0 T.literals = .consumed t n ↔
      ∃ txt d l, HasEdge s q (.lit txt d l) t ∧ txt.toList <+: r ∧ n = txt.length) ∧
    (litPass .matchesMode T.literals row r 0 T.literals = .nothing ↔
      ∀ txt d l t, HasEdge s q (.lit txt d l) t → ¬ txt.toList <+: r) ∧
    litPass .matchesMode T.literals row r 0 T.literals ≠ .stop := by
  rw [← litStep_of_row hr]
  exact ⟨litStep_consumed_iff h hdet hpf r, litStep_nothing_iff h r, litStep_ne_stop T q r⟩

theorem not_hasEdge_of_no_row (h : SubOf T s) {q : Nat}
    (hr : rowOf T.litTrans q = none) {txt : String} {d : Option String} {l t : Nat} :
    ¬ HasEdge s q (.lit txt d l) t := by
  intro he
  obtain ⟨lits, cmds, hT, hcov⟩ := h
  obtain ⟨row, _, _, hr', _⟩ := E1_row_some hT (hcov _ _ _ _ _ he) he
  rw [hr] at hr'
  cases hr'

theorem no_edge_of_no_row (h : SubOf T s) {q : Nat} (hdet : WordDetAt s q)
    (hr : rowOf T.litTrans q = none) {txt : String} {d : Option String} {l t : Nat} :
    ¬ HasEdge s q (.lit txt d l) t :=
  not_hasEdge_of_no_row h hr

end step

inductive SubPath (s : Auto) : Nat → List Char → Nat → Prop
  | nil (q : Nat) : SubPath s q [] q
  | cons {q q' t : Nat} {txt : String} {d : Option String} {l : Nat} {r : List Char} :
      HasEdge s q (.lit txt d l) q' → SubPath s q' r t → SubPath s q (txt.toList ++ r) t

section loop
variable {T : BashRt.Tables} {s : Auto}

theorem subLoop_succ_litOnly (h : SubOf T s) {q : Nat} (honly : LitOnlyAt s q)
    (out : Nat → List String) (mode : Mode) (w : List Char) (fuel i : Nat) :
    subLoop T out mode w (fuel + 1) q i =
      if i ≥ w.length then (q, i, true) else
      match litStep T mode q (w.drop i) with
      | .consumed q' n => if n = 0 then (q, i, false) else subLoop T out mode w fuel q' (i + n)
      | _ => (q, i, false) := by
  obtain ⟨lits, cmds, hT, _⟩ := h
  have hcmd : cmdStep T out q (w.drop i) = .nothing := by
    unfold cmdStep
    cases hr : rowOf T.cmdTrans q with
    | none => rfl
    | some row => rw [cmdRow_litOnly hT honly hr]; rfl
  rw [subLoop_succ, hcmd, star_litOnly hT honly]
  cases litStep T mode q (w.drop i) <;> rfl

theorem subPath_nil_inv {q t : Nat} (hne : ∀ q, LitNonEmptyAt s q) (hp : SubPath s q [] t) : t = q := by
  generalize hr : ([] : List Char) = r at hp
  cases hp with
  | nil => rfl
  | cons he _ =>
    have : (_ : String).toList = [] := (List.append_eq_nil_iff.mp hr.symm).1
    exact absurd (String.toList_eq_nil_iff.mp this) (hne _ _ _ _ _ he)

theorem drop_of_prefix {txt w : List Char} {i : Nat} (hi : i ≤ w.length) (hp : txt <+: w.drop i) :
    w.drop i = txt ++ w.drop (i + txt.length) ∧ i + txt.length ≤ w.length := by
  obtain ⟨r', hr'⟩ := hp
  have hlen := congrArg List.length hr'
  simp only [List.length_append, List.length_drop] at hlen
  refine ⟨?_, ?_⟩
  · rw [← List.drop_drop, ← hr', List.drop_left]
  · omega

theorem subLoop_sound (h : SubOf T s) (honly : ∀ q, LitOnlyAt s q) (out : Nat → List String)
    (w : List Char) : ∀ (fuel q i : Nat), i ≤ w.length →
      (subLoop T out .matchesMode w fuel q i).2.2 = true →
      (subLoop T out .matchesMode w fuel q i).2.1 = w.length ∧
        SubPath s q (w.drop i) (subLoop T out .matchesMode w fuel q i).1
  | 0, q, i, _, hm => by simp [subLoop] at hm
  | fuel + 1, q, i, hi, hm => by
    rw [subLoop_succ_litOnly h (honly q)] at hm ⊢
    by_cases hge : i ≥ w.length
    · simp only [hge, if_true]
      have : i = w.length := by omega
      subst this
      simp only [List.drop_length, true_and]
      exact .nil q
    · simp only [hge, if_false] at hm ⊢
      cases hs : litStep T .matchesMode q (w.drop i) with
      | stop => simp [hs] at hm
      | nothing => simp [hs] at hm
      | consumed q' n =>
        simp only [hs] at hm ⊢
        by_cases hn : n = 0
        · simp [hn] at hm
        · simp only [hn, if_false] at hm ⊢
          obtain ⟨txt, d, l, he, hp, rfl⟩ := litStep_sound h hs
          obtain ⟨hd, hle⟩ := drop_of_prefix hi hp
          rw [String.length_toList] at hd hle
          obtain ⟨h1, h2⟩ := subLoop_sound h honly out w fuel q' (i + txt.length) hle hm
          refine ⟨h1, ?_⟩
          rw [hd]
          exact .cons he h2

/-- enough fuel: one round per literal, and one to see the end of the word -/
theorem subLoop_complete (h : SubOf T s) (honly : ∀ q, LitOnlyAt s q) (hne : ∀ q, LitNonEmptyAt s q)
    (hpf : ∀ q, PrefixFreeAt s q) (hdet : ∀ q, WordDetAt s q) (out : Nat → List String)
    (w : List Char) : ∀ (fuel q i t : Nat), i ≤ w.length → w.length - i < fuel →
      SubPath s q (w.drop i) t → subLoop T out .matchesMode w fuel q i = (t, w.length, true)
  | 0, _, _, _, _, hf, _ => by omega
  | fuel + 1, q, i, t, hi, hf, hp => by
    rw [subLoop_succ_litOnly h (honly q)]
    by_cases hge : i ≥ w.length
    · simp only [hge, if_true]
      have : i = w.length := by omega
      subst this
      rw [List.drop_length] at hp
      rw [subPath_nil_inv hne hp]
    · simp only [hge, if_false]
      generalize hr : w.drop i = r at hp
      cases hp with
      | nil =>
        have := congrArg List.length hr
        simp only [List.length_drop, List.length_nil] at this
        omega
      | @cons _ q' _ txt d l r' he hp' =>
        have hpre : txt.toList <+: w.drop i := by rw [hr]; exact List.prefix_append _ _
        have hs : litStep T .matchesMode q (w.drop i) = .consumed q' txt.length :=
          (litStep_consumed_iff h (hdet q) (hpf q) _ _ _).mpr ⟨txt, d, l, he, hpre, rfl⟩
        rw [← hr, hs]
        have hn : txt.length ≠ 0 := by
          intro h0
          exact hne _ _ _ _ _ he (String.length_eq_zero_iff.mp h0)
        simp only [hn, if_false]
        obtain ⟨hd, hle⟩ := drop_of_prefix hi hpre
        rw [String.length_toList] at hd hle
        have hr' : r' = w.drop (i + txt.length) := by
          rw [hd] at hr
          exact (List.append_cancel_left hr).symm
        apply subLoop_complete h honly hne hpf hdet out w fuel q' (i + txt.length) t hle (by omega)
        rw [← hr']
        exact hp'

theorem subLoop_run (h : SubOf T s) (honly : ∀ q, LitOnlyAt s q) (hne : ∀ q, LitNonEmptyAt s q)
    (hpf : ∀ q, PrefixFreeAt s q) (hdet : ∀ q, WordDetAt s q) (out : Nat → List String)
    (w : List Char) (fuel q i t : Nat) (hi : i ≤ w.length) (hf : w.length - i < fuel) :
    subLoop T out .matchesMode w fuel q i = (t, w.length, true) ↔ SubPath s q (w.drop i) t := by
  constructor
  · intro he
    have := subLoop_sound h honly out w fuel q i hi (by rw [he])
    rw [he] at this
    exact this.2
  · exact subLoop_complete h honly hne hpf hdet out w fuel q i t hi hf

theorem subLoop_run_false (h : SubOf T s) (honly : ∀ q, LitOnlyAt s q) (out : Nat → List String)
    (w : List Char) (fuel q i : Nat) (hi : i ≤ w.length) (hno : ¬ ∃ t, SubPath s q (w.drop i) t) :
    (subLoop T out .matchesMode w fuel q i).2.2 = false := by
  cases hm : (subLoop T out .matchesMode w fuel q i).2.2 with
  | false => rfl
  | true => exact absurd ⟨_, (subLoop_sound h honly out w fuel q i hi hm).2⟩ hno

theorem subLoop_matched_iff (h : SubOf T s) (honly : ∀ q, LitOnlyAt s q) (hne : ∀ q, LitNonEmptyAt s q)
    (hpf : ∀ q, PrefixFreeAt s q) (hdet : ∀ q, WordDetAt s q) (out : Nat → List String)
    (w : List Char) (fuel q i : Nat) (hi : i ≤ w.length) (hf : w.length - i < fuel) :
    (subLoop T out .matchesMode w fuel q i).2.2 = true ↔ ∃ t, SubPath s q (w.drop i) t := by
  constructor
  · intro hm
    exact ⟨_, (subLoop_sound h honly out w fuel q i hi hm).2⟩
  · rintro ⟨t, hp⟩
    rw [subLoop_complete h honly hne hpf hdet out w fuel q i t hi hf hp]

theorem subPath_deterministic (hne : ∀ q, LitNonEmptyAt s q) (hpf : ∀ q, PrefixFreeAt s q)
    (hdet : ∀ q, WordDetAt s q) {q : Nat} {r : List Char} {t t' : Nat}
    (h1 : SubPath s q r t) (h2 : SubPath s q r t') : t = t' := by
  induction h1 generalizing t' with
  | nil q => exact (subPath_nil_inv hne h2).symm
  | @cons q q' t txt d l r he hp ih =>
    generalize hr : txt.toList ++ r = w at h2
    cases h2 with
    | nil =>
      have : txt.toList = [] := (List.append_eq_nil_iff.mp hr).1
      exact absurd (String.toList_eq_nil_iff.mp this) (hne _ _ _ _ _ he)
    | @cons _ q'' _ txt' d' l' r' he' hp' =>
      obtain ⟨rfl, rfl⟩ := lit_edge_unique (hdet q) (hpf q) he he' (List.prefix_append _ r)
        ⟨r', hr.symm⟩
      cases List.append_cancel_left hr
      exact ih hp'

theorem subPath_unique (h : SubOf T s) (honly : ∀ q, LitOnlyAt s q) (hne : ∀ q, LitNonEmptyAt s q)
    (hpf : ∀ q, PrefixFreeAt s q) (hdet : ∀ q, WordDetAt s q) {q : Nat} {r : List Char} {t t' : Nat}
    (h1 : SubPath s q r t) (h2 : SubPath s q r t') : t = t' :=
  subPath_deterministic hne hpf hdet h1 h2

/-- `_<cmd>_subword matches word` succeeds exactly when the word spells a path of literal transitions
from state 0, where the template starts (`ofAuto_subMatches_iff` says it from `s.start`, under the
hypothesis `s.start = 0`) — to ANY state: the template does not look at accepting states. -/
theorem subMatches_iff (h : SubOf T s) (honly : ∀ q, LitOnlyAt s q)
    (hne : ∀ q, LitNonEmptyAt s q) (hpf : ∀ q, PrefixFreeAt s q) (hdet : ∀ q, WordDetAt s q)
    (out : Nat → List String) (word : String) :
    subMatches T out word = true ↔ ∃ t, SubPath s 0 word.toList t := by
  unfold subMatches
  rw [← String.length_toList]
  have := subLoop_matched_iff h honly hne hpf hdet out word.toList (word.toList.length + 1) 0 0
    (Nat.zero_le _) (by omega)
  simpa using this

end loop

section completeMode
variable {T : BashRt.Tables} {s : Auto}

theorem SubPath.snoc {q0 q q' : Nat} {a : List Char} {txt : String} {d : Option String} {l : Nat}
    (hp : SubPath s q0 a q) (he : HasEdge s q (.lit txt d l) q') : SubPath s q0 (a ++ txt.toList) q' := by
  induction hp with
  | nil q =>
    have := SubPath.cons he (SubPath.nil q')
    simpa using this
  | cons he' _ ih =>
    rw [List.append_assoc]
    exact .cons he' (ih he)

def ReadsTo (s : Auto) (q0 : Nat) (w : List Char) (q i : Nat) : Prop :=
  SubPath s q0 (w.take i) q ∧ i ≤ w.length ∧
    (i < w.length → ∀ txt d l t, HasEdge s q (.lit txt d l) t → ¬ txt.toList <+: w.drop i)

theorem subLoop_complete_mode (h : SubOf T s) (honly : ∀ q, LitOnlyAt s q) (hne : ∀ q, LitNonEmptyAt s q)
    (hpf : ∀ q, PrefixFreeAt s q) (out : Nat → List String)
    (w : List Char) (q0 : Nat) : ∀ (fuel q i : Nat), i ≤ w.length → w.length - i < fuel →
      SubPath s q0 (w.take i) q →
      ReadsTo s q0 w (subLoop T out .complete w fuel q i).1 (subLoop T out .complete w fuel q i).2.1
  | 0, _, _, _, hf, _ => by omega
  | fuel + 1, q, i, hi, hf, hp => by
    rw [subLoop_succ_litOnly h (honly q)]
    by_cases hge : i ≥ w.length
    · simp only [hge, if_true]
      exact ⟨hp, hi, fun hlt => by omega⟩
    · simp only [hge, if_false]
      cases hs : litStep T .complete q (w.drop i) with
      | stop =>
        refine ⟨hp, hi, fun _ txt d l t he hpre => ?_⟩
        obtain ⟨txt', d', l', t', he', hp', hne'⟩ := litStep_stop h hs
        have := hpf q _ _ _ _ _ _ _ _ he he' (hpre.trans hp')
        subst this
        exact hne' (hp'.eq_of_length_le hpre.length_le)
      | nothing =>
        exact ⟨hp, hi, fun _ txt d l t he => litStep_nothing h hs he⟩
      | consumed q' n =>
        obtain ⟨txt, d, l, he, hpre, rfl⟩ := litStep_sound h hs
        have hn : txt.length ≠ 0 := by
          intro h0
          exact hne _ _ _ _ _ he (String.length_eq_zero_iff.mp h0)
        simp only [hn, if_false]
        obtain ⟨hd, hle⟩ := drop_of_prefix hi hpre
        rw [String.length_toList] at hd hle
        apply subLoop_complete_mode h honly hne hpf out w q0 fuel q' (i + txt.length) hle (by omega)
        rw [List.take_add, hd, ← String.length_toList, List.take_left]
        exact hp.snoc he

def SubExt (s : Auto) (q : Nat) (r : List Char) (txt : String) (l : Nat) : Prop :=
  (∃ d t, HasEdge s q (.lit txt d l) t) ∧ r <+: txt.toList

def SubCand (s : Auto) (q : Nat) (m : String) (r : List Char) (c : String) : Prop :=
  ∃ txt l, SubExt s q r txt l ∧ c = m ++ txt ∧ ∀ txt' l', SubExt s q r txt' l' → l ≤ l'

theorem mem_subLevelCands (h : SubOf T s) {q lvl : Nat} {m c : String} :
    c ∈ (idsAt T.litLevels lvl q).map (fun id => m ++ (T.literals[id]?.getD "")) ↔
      ∃ txt d t, HasEdge s q (.lit txt d lvl) t ∧ c = m ++ txt := by
  obtain ⟨lits, cmds, hT, hcov⟩ := h
  rw [List.mem_map]
  constructor
  · rintro ⟨k, hk, rfl⟩
    obtain ⟨txt, d, t, he, _, hn⟩ := E1_level_backward hT hk
    exact ⟨txt, d, t, he, by rw [hn]; rfl⟩
  · rintro ⟨txt, d, t, he, rfl⟩
    obtain ⟨k, hk, hm, _⟩ := E1_forward hT (hcov _ _ _ _ _ he) he
    exact ⟨k, hm, by rw [hk]; rfl⟩

theorem mem_subLevelOut_litOnly (h : SubOf T s) {q : Nat} (honly : LitOnlyAt s q) (out : Nat → List String)
    (w : List Char) (i : Nat) (c : String) (lvl : Nat) :
    c ∈ subLevelOut T out w q (String.ofList (w.take i)) (w.drop i) lvl ↔
      ∃ txt, SubExt s q (w.drop i) txt lvl ∧ c = String.ofList (w.take i) ++ txt := by
  have hcmd : idsAt T.cmdLevels lvl q = [] := h.elim fun _ ⟨_, hT, _⟩ => cmdLevels_litOnly hT honly lvl
  unfold subLevelOut
  rw [hcmd, List.flatMap_nil, List.append_nil, List.mem_filter, mem_subLevelCands h]
  constructor
  · rintro ⟨⟨txt, d, t, he, rfl⟩, hp⟩
    exact ⟨txt, ⟨⟨d, t, he⟩, (isPrefix_matched txt).mp hp⟩, rfl⟩
  · rintro ⟨txt, ⟨⟨d, t, he⟩, hp⟩, rfl⟩
    exact ⟨⟨txt, d, t, he, rfl⟩, (isPrefix_matched txt).mpr hp⟩

/-- With non-empty, prefix-free literals: `_<cmd>_subword complete word` reads the
word from state 0 as far as literal transitions go, to a state `q` at a position `i`, and offers — as a set — the
candidates `read part ++ txt` for the literal transitions `q --txt-->` whose text extends the unread rest
(`word[i..]` is a prefix of `txt`), at the least level that has one.  (When the whole word is readable,
`i = word.length` and every literal transition out of `q` of the least level is offered.) -/
theorem subComplete_mem (h : SubOf T s) (honly : ∀ q, LitOnlyAt s q)
    (hne : ∀ q, LitNonEmptyAt s q) (hpf : ∀ q, PrefixFreeAt s q)
    (out : Nat → List String) (word : String) :
    ∃ q i, ReadsTo s 0 word.toList q i ∧
      ∀ c, c ∈ subComplete T out word ↔
        SubCand s q (String.ofList (word.toList.take i)) (word.toList.drop i) c := by
  refine ⟨(subLoop T out .complete word.toList (word.toList.length + 1) 0 0).1,
    (subLoop T out .complete word.toList (word.toList.length + 1) 0 0).2.1, ?_, fun c => ?_⟩
  · exact subLoop_complete_mode h honly hne hpf out word.toList 0 _ 0 0 (Nat.zero_le _) (by omega)
      (by simpa using SubPath.nil 0)
  · rw [subComplete_eq_firstLevel,
      mem_firstLevel_iff_least (fun l c => mem_subLevelOut_litOnly h (honly _) out _ _ c l)
        (fun l c ⟨_, ⟨⟨_, _, he⟩, _⟩, _⟩ => h.elim fun _ ⟨_, hT, _⟩ => E3_level_le hT he rfl)]
    constructor
    · rintro ⟨L, ⟨txt, hext, rfl⟩, hmin⟩
      exact ⟨txt, L, hext, rfl, fun txt' l' h' => hmin l' _ ⟨txt', h', rfl⟩⟩
    · rintro ⟨txt, L, hext, rfl, hmin⟩
      exact ⟨L, ⟨txt, hext, rfl⟩, fun l c' ⟨txt', h', _⟩ => hmin txt' l h'⟩

end completeMode

/-! ### prefix-freeness is needed for `subLoop_complete` / `subMatches_iff` (not for `subLoop_sound`)

`a` and `ab` are both expected at state 0, `bc` after `a`: the word `abc` spells the path
`0 --a--> 1 --bc--> 3`, but the pass over the literal table (longest first: `bc`, `ab`, `a`) consumes `ab`
at state 0, moves to 2 and is stuck: the greedy choice is never revised.  The literal table is written
out (`ofAutoWith`; every theorem above holds for every order); it is the order of `ofAuto`, as the
evaluation below shows. -/

def cexPF : Auto :=
  { start := 0, acc := [3], inputs := [.lit "a" none 0, .lit "ab" none 0, .lit "bc" none 0],
    trans := [(0, 0, 1), (0, 1, 2), (1, 2, 3)] }

def cexPFTables : BashRt.Tables :=
  ofAutoWith [("bc", none), ("ab", none), ("a", none)] cexPF [] fun _ => none

/-- info: true -/
#guard_msgs in
#eval (ofAuto cexPF [] fun _ => none).literals == cexPFTables.literals

theorem cexPF_path : SubPath cexPF cexPF.start "abc".toList 3 := by
  have e1 : HasEdge cexPF 0 (.lit "a" none 0) 1 := ⟨0, by decide, by decide⟩
  have e2 : HasEdge cexPF 1 (.lit "bc" none 0) 3 := ⟨2, by decide, by decide⟩
  exact .cons e1 (.cons e2 (.nil 3))

theorem cexPF_no_match : subMatches cexPFTables (fun _ => []) "abc" = false := by decide

theorem cexPF_not_prefixFree : ¬ PrefixFreeAt cexPF 0 := by
  intro hpf
  have e1 : HasEdge cexPF 0 (.lit "a" none 0) 1 := ⟨0, by decide, by decide⟩
  have e2 : HasEdge cexPF 0 (.lit "ab" none 0) 2 := ⟨1, by decide, by decide⟩
  have := hpf _ _ _ _ _ _ _ _ e1 e2 (by decide)
  exact absurd this (by decide)

/-- **`subMatches_iff` is false without prefix-freeness**: a word that spells a path is not matched. -/
theorem subMatches_iff_needs_prefixFree :
    ¬ ∀ (T : BashRt.Tables) (s : Auto) (word : String), SubOf T s → s.start = 0 →
      (∃ t, SubPath s s.start word.toList t) → subMatches T (fun _ => []) word = true := by
  intro hall
  have hsub : SubOf cexPFTables cexPF := by
    refine ⟨_, _, rfl, ?_⟩
    rintro q txt d lvl t ⟨i, hi, hx⟩
    -- the three transitions carry the inputs 0, 1, 2: the three literals of the table
    have hi' : i = 0 ∨ i = 1 ∨ i = 2 := by
      have : (q, i, t) = (0, 0, 1) ∨ (q, i, t) = (0, 1, 2) ∨ (q, i, t) = (1, 2, 3) := by
        simpa [cexPF] using hi
      simp only [Prod.mk.injEq] at this
      omega
    rcases hi' with rfl | rfl | rfl <;> cases hx <;> decide
  have := hall cexPFTables cexPF "abc" hsub rfl ⟨3, cexPF_path⟩
  rw [cexPF_no_match] at this
  cases this

section ofAuto
variable (s : Auto) (cmds : List String) (out : Nat → List String)

theorem ofAuto_subMatches_iff (hstart : s.start = 0) (honly : ∀ q, LitOnlyAt s q)
    (hne : ∀ q, LitNonEmptyAt s q) (hpf : ∀ q, PrefixFreeAt s q) (hdet : ∀ q, WordDetAt s q)
    (word : String) :
    subMatches (ofAuto s cmds fun _ => none) out word = true ↔ ∃ t, SubPath s s.start word.toList t :=
  hstart ▸ subMatches_iff (subOf_ofAuto s cmds) honly hne hpf hdet out word

theorem ofAuto_subComplete_mem (hstart : s.start = 0) (honly : ∀ q, LitOnlyAt s q)
    (hne : ∀ q, LitNonEmptyAt s q) (hpf : ∀ q, PrefixFreeAt s q) (word : String) :
    ∃ q i, ReadsTo s s.start word.toList q i ∧
      ∀ c, c ∈ subComplete (ofAuto s cmds fun _ => none) out word ↔
        SubCand s q (String.ofList (word.toList.take i)) (word.toList.drop i) c :=
  hstart ▸ subComplete_mem (subOf_ofAuto s cmds) honly hne hpf out word

end ofAuto

end Complgen.SubwordDfa
