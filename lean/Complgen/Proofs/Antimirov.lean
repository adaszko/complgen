/-
Correctness of the determinised partial-derivative (Antimirov) automaton `SRx.toKAuto` of
`Spec/Den.lean` with respect to the standard language semantics of regular expressions.
-/
import Complgen.Spec.Den
import Complgen.Proofs.Basics
import Complgen.Proofs.Cert
namespace Complgen.Spec

inductive SRx.Lang : SRx → List String → Prop
  | eps : Lang .eps []
  | sym (k) : Lang (.sym k) [k]
  | cat {a b u v} : Lang a u → Lang b v → Lang (.cat a b) (u ++ v)
  | altL {a b w} : Lang a w → Lang (.alt a b) w
  | altR {a b w} : Lang b w → Lang (.alt a b) w
  | starNil {a} : Lang (.star a) []
  | starCons {a u v} : Lang a u → Lang (.star a) v → Lang (.star a) (u ++ v)

open SRx (Lang)

deriving instance ReflBEq, LawfulBEq for SRx

theorem lang_eps {w} : Lang .eps w ↔ w = [] := by
  constructor
  · intro h; cases h; rfl
  · intro h; subst h; exact .eps

theorem lang_sym {k w} : Lang (.sym k) w ↔ w = [k] := by
  constructor
  · intro h; cases h; rfl
  · intro h; subst h; exact .sym k

theorem lang_cat {a b w} : Lang (.cat a b) w ↔ ∃ u v, w = u ++ v ∧ Lang a u ∧ Lang b v := by
  constructor
  · intro h; cases h with | cat h1 h2 => exact ⟨_, _, rfl, h1, h2⟩
  · rintro ⟨u, v, rfl, h1, h2⟩; exact .cat h1 h2

theorem lang_alt {a b w} : Lang (.alt a b) w ↔ Lang a w ∨ Lang b w := by
  constructor
  · intro h; cases h with
    | altL h => exact .inl h
    | altR h => exact .inr h
  · rintro (h | h)
    · exact .altL h
    · exact .altR h

theorem lang_star_iff (r : SRx) (v : List String) :
    Lang (.star r) v ↔ ∃ vs : List (List String), v = vs.flatten ∧ ∀ u ∈ vs, Lang r u := by
  constructor
  · intro h
    generalize hx : SRx.star r = x at h
    induction h with
    | eps => cases hx
    | sym k => cases hx
    | cat _ _ => cases hx
    | altL _ => cases hx
    | altR _ => cases hx
    | starNil => exact ⟨[], rfl, fun u hu => by cases hu⟩
    | @starCons a u v' hu _ _ ih2 =>
      cases hx
      obtain ⟨vs, rfl, hall⟩ := ih2 rfl
      exact ⟨u :: vs, by simp, fun x hx => by
        rcases List.mem_cons.mp hx with rfl | hx
        · exact hu
        · exact hall x hx⟩
  · rintro ⟨vs, rfl, hall⟩
    induction vs with
    | nil => exact .starNil
    | cons u vs ih =>
      simp only [List.flatten_cons]
      exact .starCons (hall u (by simp)) (ih (fun x hx => hall x (by simp [hx])))

theorem lang_star_cons {a k w} :
    Lang (.star a) (k :: w) ↔ ∃ u v, w = u ++ v ∧ Lang a (k :: u) ∧ Lang (.star a) v := by
  constructor
  · intro h
    obtain ⟨vs, hv, hall⟩ := (lang_star_iff a _).mp h
    obtain ⟨u, vs', h1, h2, rfl⟩ := flatten_eq_cons hv.symm
    exact ⟨u, vs'.flatten, rfl, hall _ h1,
      (lang_star_iff a _).mpr ⟨vs', rfl, fun v hv => hall v (h2 v hv)⟩⟩
  · rintro ⟨u, v, rfl, h1, h2⟩
    exact .starCons (u := k :: u) h1 h2

theorem nullable_correct (r : SRx) : r.nullable = true ↔ Lang r [] := by
  induction r with
  | eps => simp [SRx.nullable, lang_eps]
  | sym k => simp [SRx.nullable, lang_sym]
  | cat a b iha ihb =>
    simp only [SRx.nullable, Bool.and_eq_true, iha, ihb, lang_cat]
    constructor
    · rintro ⟨h1, h2⟩; exact ⟨[], [], rfl, h1, h2⟩
    · rintro ⟨u, v, h, h1, h2⟩
      have : u = [] ∧ v = [] := by simpa using h.symm
      obtain ⟨rfl, rfl⟩ := this
      exact ⟨h1, h2⟩
  | alt a b iha ihb => simp only [SRx.nullable, Bool.or_eq_true, iha, ihb, lang_alt]
  | star a _ => simp only [SRx.nullable, true_iff]; exact .starNil

theorem mkCat_lang {a b : SRx} {w} : Lang (SRx.mkCat a b) w ↔ Lang (.cat a b) w := by
  have hl : ∀ b w, Lang b w ↔ Lang (.cat .eps b) w := by
    intro b w
    simp only [lang_cat, lang_eps]
    constructor
    · intro h; exact ⟨[], w, rfl, rfl, h⟩
    · rintro ⟨u, v, rfl, rfl, h⟩; exact h
  have hr : ∀ a w, Lang a w ↔ Lang (.cat a .eps) w := by
    intro a w
    simp only [lang_cat, lang_eps]
    constructor
    · intro h; exact ⟨w, [], by simp, h, rfl⟩
    · rintro ⟨u, v, rfl, h, rfl⟩; simpa using h
  cases a <;> cases b <;> first | exact hl _ _ | exact hr _ _ | exact Iff.rfl

theorem mem_addNew {l : List SRx} {x y : SRx} : y ∈ addNew l x ↔ y ∈ l ∨ y = x := by
  unfold addNew
  split
  · rename_i h
    have : x ∈ l := List.contains_iff_mem.mp h
    constructor
    · intro h; exact .inl h
    · rintro (h | rfl)
      · exact h
      · exact this
  · simp

theorem mem_unionS {a b : List SRx} {x : SRx} : x ∈ unionS a b ↔ x ∈ a ∨ x ∈ b := by
  unfold unionS
  induction b generalizing a with
  | nil => simp
  | cons y ys ih =>
    simp only [List.foldl_cons, ih, mem_addNew, List.mem_cons]
    constructor
    · rintro ((h | h) | h)
      · exact .inl h
      · exact .inr (.inl h)
      · exact .inr (.inr h)
    · rintro (h | h | h)
      · exact .inl (.inl h)
      · exact .inl (.inr h)
      · exact .inr h

theorem pd_correct (r : SRx) (k : String) (w : List String) :
    Lang r (k :: w) ↔ ∃ r' ∈ r.pd k, Lang r' w := by
  induction r generalizing w with
  | eps => simp [SRx.pd, lang_eps]
  | sym j =>
    simp only [SRx.pd, lang_sym, List.cons.injEq]
    by_cases hjk : j = k
    · subst hjk; simp [lang_eps]
    · have : (j == k) = false := by simpa using hjk
      simp only [this, Bool.false_eq_true, if_false, List.not_mem_nil, false_and, exists_false,
        iff_false]
      rintro ⟨h, _⟩; exact hjk h.symm
  | alt a b iha ihb =>
    simp only [SRx.pd, lang_alt, iha, ihb, mem_unionS]
    constructor
    · rintro (⟨x, hx, h⟩ | ⟨x, hx, h⟩)
      · exact ⟨x, .inl hx, h⟩
      · exact ⟨x, .inr hx, h⟩
    · rintro ⟨x, hx | hx, h⟩
      · exact .inl ⟨x, hx, h⟩
      · exact .inr ⟨x, hx, h⟩
  | cat a b iha ihb =>
    simp only [SRx.pd, mem_unionS, List.mem_map]
    constructor
    · intro h
      obtain ⟨u, v, huv, h1, h2⟩ := lang_cat.mp h
      cases u with
      | nil =>
        simp only [List.nil_append] at huv
        subst huv
        obtain ⟨x, hx, hxw⟩ := (ihb w).mp h2
        refine ⟨x, .inr ?_, hxw⟩
        rw [if_pos ((nullable_correct a).mpr h1)]; exact hx
      | cons k' u' =>
        simp only [List.cons_append, List.cons.injEq] at huv
        obtain ⟨rfl, rfl⟩ := huv
        obtain ⟨x, hx, hxw⟩ := (iha u').mp h1
        exact ⟨SRx.mkCat x b, .inl ⟨x, hx, rfl⟩, mkCat_lang.mpr (.cat hxw h2)⟩
    · rintro ⟨x, hx | hx, hxw⟩
      · obtain ⟨y, hy, rfl⟩ := hx
        obtain ⟨u, v, rfl, h1, h2⟩ := lang_cat.mp (mkCat_lang.mp hxw)
        exact .cat (u := k :: u) ((iha u).mpr ⟨y, hy, h1⟩) h2
      · by_cases hn : a.nullable = true
        · rw [if_pos hn] at hx
          exact .cat (u := []) ((nullable_correct a).mp hn) ((ihb w).mpr ⟨x, hx, hxw⟩)
        · rw [if_neg hn] at hx; cases hx
  | star a iha =>
    simp only [SRx.pd, List.mem_map, lang_star_cons]
    constructor
    · rintro ⟨u, v, rfl, h1, h2⟩
      obtain ⟨x, hx, hxu⟩ := (iha u).mp h1
      exact ⟨SRx.mkCat x (.star a), ⟨x, hx, rfl⟩, mkCat_lang.mpr (.cat hxu h2)⟩
    · rintro ⟨x, ⟨y, hy, rfl⟩, hxw⟩
      obtain ⟨u, v, rfl, h1, h2⟩ := lang_cat.mp (mkCat_lang.mp hxw)
      exact ⟨u, v, rfl, (iha u).mpr ⟨y, hy, h1⟩, h2⟩

/-- the successor of a set of terms (the expression used inside `SRx.toKAuto`) -/
def stepS (S : List SRx) (k : String) : List SRx := S.foldl (fun acc x => unionS acc (x.pd k)) []

/-- the comparison "as sets" used inside `SRx.toKAuto` -/
def seteqB (u t : List SRx) : Bool := u.all (t.contains ·) && t.all (u.contains ·)

def SetEq (A B : List SRx) : Prop := ∀ x, x ∈ A ↔ x ∈ B

def SetLang (S : List SRx) (w : List String) : Prop := ∃ x ∈ S, Lang x w

theorem seteqB_iff {u t : List SRx} : seteqB u t = true ↔ SetEq u t := by
  simp only [seteqB, Bool.and_eq_true, List.all_eq_true, List.contains_iff_mem, SetEq]
  constructor
  · rintro ⟨h1, h2⟩ x; exact ⟨h1 x, h2 x⟩
  · intro h; exact ⟨fun x hx => (h x).mp hx, fun x hx => (h x).mpr hx⟩

theorem mem_stepS {S : List SRx} {k : String} {y : SRx} : y ∈ stepS S k ↔ ∃ x ∈ S, y ∈ x.pd k := by
  have : ∀ (S acc : List SRx), y ∈ S.foldl (fun acc x => unionS acc (x.pd k)) acc ↔
      y ∈ acc ∨ ∃ x ∈ S, y ∈ x.pd k := by
    intro S
    induction S with
    | nil => intro acc; simp
    | cons x xs ih =>
      intro acc
      simp only [List.foldl_cons, ih, mem_unionS, List.mem_cons]
      constructor
      · rintro ((h | h) | ⟨z, hz, h⟩)
        · exact .inl h
        · exact .inr ⟨x, .inl rfl, h⟩
        · exact .inr ⟨z, .inr hz, h⟩
      · rintro (h | ⟨z, rfl | hz, h⟩)
        · exact .inl (.inl h)
        · exact .inl (.inr h)
        · exact .inr ⟨z, hz, h⟩
  unfold stepS
  rw [this]
  simp

theorem setLang_cons {S : List SRx} {k : String} {w : List String} :
    SetLang S (k :: w) ↔ SetLang (stepS S k) w := by
  unfold SetLang
  constructor
  · rintro ⟨x, hx, h⟩
    obtain ⟨y, hy, hyw⟩ := (pd_correct x k w).mp h
    exact ⟨y, mem_stepS.mpr ⟨x, hx, hy⟩, hyw⟩
  · rintro ⟨y, hy, hyw⟩
    obtain ⟨x, hx, hxy⟩ := mem_stepS.mp hy
    exact ⟨x, hx, (pd_correct x k w).mpr ⟨y, hxy, hyw⟩⟩

theorem setLang_nil {S : List SRx} : SetLang S [] ↔ S.any SRx.nullable = true := by
  simp only [SetLang, List.any_eq_true, nullable_correct]

theorem SetEq.setLang {A B : List SRx} (h : SetEq A B) (w : List String) :
    SetLang A w ↔ SetLang B w := by
  unfold SetLang
  constructor
  · rintro ⟨x, hx, hw⟩; exact ⟨x, (h x).mp hx, hw⟩
  · rintro ⟨x, hx, hw⟩; exact ⟨x, (h x).mpr hx, hw⟩

theorem setLang_singleton {r : SRx} {w : List String} : SetLang [r] w ↔ Lang r w := by
  simp [SetLang]

theorem lang_syms {r : SRx} {w : List String} (h : Lang r w) : ∀ k ∈ w, k ∈ r.syms := by
  induction h with
  | eps => intro k hk; cases hk
  | sym j => intro k hk; simpa [SRx.syms] using hk
  | cat _ _ ih1 ih2 =>
    intro k hk
    simp only [SRx.syms, List.mem_eraseDups, List.mem_append]
    rcases List.mem_append.mp hk with h | h
    · exact .inl (ih1 k h)
    · exact .inr (ih2 k h)
  | altL _ ih =>
    intro k hk
    simp only [SRx.syms, List.mem_eraseDups, List.mem_append]
    exact .inl (ih k hk)
  | altR _ ih =>
    intro k hk
    simp only [SRx.syms, List.mem_eraseDups, List.mem_append]
    exact .inr (ih k hk)
  | starNil => intro k hk; cases hk
  | starCons _ _ ih1 ih2 =>
    intro k hk
    rcases List.mem_append.mp hk with h | h
    · exact ih1 k h
    · exact ih2 k h

theorem span_loop_append (p : String → Bool) : ∀ (as acc : List String),
    (List.span.loop p as acc).1 ++ (List.span.loop p as acc).2 = acc.reverse ++ as
  | [], acc => by simp [List.span.loop]
  | a :: as, acc => by
    unfold List.span.loop
    cases p a
    · simp
    · simp [span_loop_append p as (a :: acc)]

theorem mem_sortStrings {l : List String} {x : String} : x ∈ Cert.sortStrings l ↔ x ∈ l := by
  have : ∀ (l acc : List String),
      x ∈ l.foldl (fun acc x => let (b, a) := acc.span (· ≤ x); b ++ [x] ++ a) acc ↔
        x ∈ acc ∨ x ∈ l := by
    intro l
    induction l with
    | nil => intro acc; simp
    | cons y ys ih =>
      intro acc
      rw [List.foldl_cons, ih]
      have h := span_loop_append (fun z => decide (z ≤ y)) acc []
      have hm : x ∈ acc ↔ x ∈ (acc.span (fun z => decide (z ≤ y))).1 ∨
          x ∈ (acc.span (fun z => decide (z ≤ y))).2 := by
        rw [← List.mem_append]; unfold List.span; rw [h]; simp
      simp only [List.mem_append, List.mem_cons, List.not_mem_nil, or_false, hm]
      constructor
      · rintro (((h | h) | h) | h)
        · exact .inl (.inl h)
        · exact .inr (.inl h)
        · exact .inl (.inr h)
        · exact .inr (.inr h)
      · rintro ((h | h) | (h | h))
        · exact .inl (.inl (.inl h))
        · exact .inl (.inr h)
        · exact .inl (.inl (.inr h))
        · exact .inr h
  unfold Cert.sortStrings
  rw [this]
  simp

abbrev LState := List (List SRx) × List (List SRx) × List (Nat × String × Nat)

def keyStep (s : List SRx) (from_ : Nat) (st : LState) (k : String) : LState :=
  let t := stepS s k
  if t.isEmpty then st else
  match st.2.1.findIdx? (fun u => seteqB u t) with
  | some j => (st.1, st.2.1, st.2.2 ++ [(from_, k, j)])
  | none => (st.1 ++ [t], st.2.1 ++ [t], st.2.2 ++ [(from_, k, st.2.1.length)])

/-- `SRx.toKAuto.loop`, returning also the work list it stopped with -/
def loopW (keys : List String) :
    Nat → List (List SRx) → List (List SRx) → List (Nat × String × Nat) → LState
  | 0, work, states, trans => (work, states, trans)
  | _ + 1, [], states, trans => ([], states, trans)
  | fuel + 1, s :: work, states, trans =>
    let st := keys.foldl (keyStep s ((states.idxOf? s).getD 0)) (work, states, trans)
    loopW keys fuel st.1 st.2.1 st.2.2

theorem loop_eq (keys : List String) (fuel : Nat) (work states trans) :
    SRx.toKAuto.loop keys fuel work states trans = (loopW keys fuel work states trans).2 := by
  induction fuel generalizing work states trans with
  | zero => simp only [SRx.toKAuto.loop, loopW]
  | succ n ih =>
    cases work with
    | nil => simp only [SRx.toKAuto.loop, loopW]
    | cons s work =>
      simp only [SRx.toKAuto.loop, loopW]
      rw [ih]
      unfold keyStep stepS seteqB
      rfl

/-- the construction for `r` ended because the work list became empty (not because the fuel
ran out) -/
def Finished (r : SRx) : Prop := (loopW (Cert.sortStrings r.syms) 4096 [[r]] [[r]] []).1 = []

def finishedB (r : SRx) : Bool := (loopW (Cert.sortStrings r.syms) 4096 [[r]] [[r]] []).1.isEmpty

theorem finishedB_iff (r : SRx) : finishedB r = true ↔ Finished r := List.isEmpty_iff

def nth (states : List (List SRx)) (i : Nat) : List SRx := states[i]?.getD []

theorem nth_eq_getElem {states : List (List SRx)} {i : Nat} (h : i < states.length) :
    nth states i = states[i] := by
  simp [nth, h]

theorem nth_append_lt {states : List (List SRx)} {t : List SRx} {i : Nat} (h : i < states.length) :
    nth (states ++ [t]) i = nth states i := by
  simp [nth, List.getElem?_append_left h]

theorem nth_append_len {states : List (List SRx)} {t : List SRx} :
    nth (states ++ [t]) states.length = t := by
  simp [nth]

theorem nth_mem {states : List (List SRx)} {i : Nat} (h : i < states.length) :
    nth states i ∈ states := by
  rw [nth_eq_getElem h]; exact List.getElem_mem h

def Good (r : SRx) (S : List SRx) : Prop := ∀ x ∈ S, ∀ w, Lang x w → ∀ k ∈ w, k ∈ r.syms

theorem Good.stepS {r : SRx} {S : List SRx} (h : Good r S) (k : String) : Good r (stepS S k) := by
  intro y hy w hw k' hk'
  obtain ⟨x, hx, hxy⟩ := mem_stepS.mp hy
  exact h x hx (k :: w) ((pd_correct x k w).mpr ⟨y, hxy, hw⟩) k' (List.mem_cons_of_mem _ hk')

/-- While the keys of state number `i0` are being processed, `todo` are the keys still to do. -/
structure Inv (r : SRx) (keys : List String) (i0 : Nat) (todo : List String) (st : LState) :
    Prop where
  start : st.2.1[0]? = some [r]
  workSub : ∀ x ∈ st.1, x ∈ st.2.1
  nodup : st.2.1.Nodup
  good : ∀ S ∈ st.2.1, Good r S
  transOk : ∀ t ∈ st.2.2, t.1 < st.2.1.length ∧ t.2.2 < st.2.1.length ∧
      stepS (nth st.2.1 t.1) t.2.1 ≠ [] ∧
      SetEq (nth st.2.1 t.2.2) (stepS (nth st.2.1 t.1) t.2.1)
  closed : ∀ i, i < st.2.1.length → ∀ k ∈ keys, stepS (nth st.2.1 i) k ≠ [] →
      (∃ j, (i, k, j) ∈ st.2.2) ∨ nth st.2.1 i ∈ st.1 ∨ (i = i0 ∧ k ∈ todo)

theorem Inv.change {r keys i0 i1} {st : LState} (h : Inv r keys i0 [] st) : Inv r keys i1 [] st where
  start := h.start
  workSub := h.workSub
  nodup := h.nodup
  good := h.good
  transOk := h.transOk
  closed := by
    intro i hi k hk hne
    rcases h.closed i hi k hk hne with h1 | h1 | ⟨_, h1⟩
    · exact .inl h1
    · exact .inr (.inl h1)
    · cases h1

theorem keyStep_inv {r : SRx} {keys : List String} {i0 : Nat} {k : String} {ks : List String}
    {s : List SRx} {st : LState}
    (h : Inv r keys i0 (k :: ks) st) (hi : i0 < st.2.1.length) (hs : nth st.2.1 i0 = s) :
    Inv r keys i0 ks (keyStep s i0 st k) ∧ i0 < (keyStep s i0 st k).2.1.length ∧
      nth (keyStep s i0 st k).2.1 i0 = s := by
  obtain ⟨work, states, trans⟩ := st
  dsimp only at hi hs
  unfold keyStep
  dsimp only
  split
  · rename_i hemp
    have hemp : stepS s k = [] := List.isEmpty_iff.mp hemp
    refine ⟨?_, hi, hs⟩
    exact { h with
      closed := by
        intro i hil k' hk' hne
        rcases h.closed i hil k' hk' hne with h1 | h1 | ⟨rfl, h1⟩
        · exact .inl h1
        · exact .inr (.inl h1)
        · rcases List.mem_cons.mp h1 with rfl | h2
          · exact absurd hemp (by dsimp only at hne; rw [hs] at hne; exact hne)
          · exact .inr (.inr ⟨rfl, h2⟩) }
  · rename_i hne0
    have hne0 : stepS s k ≠ [] := fun h => hne0 (List.isEmpty_iff.mpr h)
    split
    · rename_i j hj
      obtain ⟨hjl, hjeq, -⟩ := List.findIdx?_eq_some_iff_getElem.mp hj
      refine ⟨?_, hi, hs⟩
      exact { h with
        transOk := by
          intro t ht
          rcases List.mem_append.mp ht with ht | ht
          · exact h.transOk t ht
          · have : t = (i0, k, j) := by simpa using ht
            subst this
            dsimp only
            rw [hs, nth_eq_getElem hjl]
            exact ⟨hi, hjl, hne0, seteqB_iff.mp hjeq⟩
        closed := by
          intro i hil k' hk' hne
          dsimp only
          rcases h.closed i hil k' hk' hne with ⟨j', h1⟩ | h1 | ⟨rfl, h1⟩
          · exact .inl ⟨j', List.mem_append_left _ h1⟩
          · exact .inr (.inl h1)
          · rcases List.mem_cons.mp h1 with rfl | h2
            · exact .inl ⟨j, List.mem_append_right _ (List.mem_singleton.mpr rfl)⟩
            · exact .inr (.inr ⟨rfl, h2⟩) }
    · rename_i hnone
      have hnew : ∀ u ∈ states, seteqB u (stepS s k) = false :=
        List.findIdx?_eq_none_iff.mp hnone
      have hnotin : stepS s k ∉ states := by
        intro hin
        have := hnew _ hin
        rw [(seteqB_iff.mpr (fun _ => Iff.rfl) : seteqB (stepS s k) (stepS s k) = true)] at this
        cases this
      have hlen : (states ++ [stepS s k]).length = states.length + 1 := by simp
      refine ⟨?_, by dsimp only; omega, by dsimp only; rw [nth_append_lt hi]; exact hs⟩
      have hstart : states[0]? = some [r] := h.start
      have hpos : 0 < states.length := by
        cases states with
        | nil => cases hstart
        | cons _ _ => simp
      exact {
        start := by dsimp only; rw [List.getElem?_append_left hpos]; exact hstart
        workSub := by
          intro x hx
          dsimp only at hx ⊢
          rcases List.mem_append.mp hx with hx | hx
          · exact List.mem_append_left _ (h.workSub x hx)
          · exact List.mem_append_right _ hx
        nodup := by
          dsimp only
          rw [List.nodup_append]
          refine ⟨h.nodup, by simp, ?_⟩
          intro a ha b hb hab
          have : b = stepS s k := by simpa using hb
          subst this; subst hab
          exact hnotin ha
        good := by
          intro S hS
          dsimp only at hS
          rcases List.mem_append.mp hS with hS | hS
          · exact h.good S hS
          · have : S = stepS s k := by simpa using hS
            subst this
            have hg : Good r s := by rw [← hs]; exact h.good _ (nth_mem hi)
            exact hg.stepS k
        transOk := by
          intro t ht
          dsimp only at ht ⊢
          rcases List.mem_append.mp ht with ht | ht
          · obtain ⟨h1, h2, h3, h4⟩ := h.transOk t ht
            dsimp only at h1 h2 h3 h4
            rw [nth_append_lt h1, nth_append_lt h2]
            exact ⟨by omega, by omega, h3, h4⟩
          · have : t = (i0, k, states.length) := by simpa using ht
            subst this
            dsimp only
            rw [nth_append_lt hi, nth_append_len, hs]
            exact ⟨by omega, by omega, hne0, fun _ => Iff.rfl⟩
        closed := by
          intro i hil k' hk' hne
          dsimp only at hil hne ⊢
          by_cases hlt : i < states.length
          · rw [nth_append_lt hlt] at hne ⊢
            rcases h.closed i hlt k' hk' hne with ⟨j', h1⟩ | h1 | ⟨rfl, h1⟩
            · exact .inl ⟨j', List.mem_append_left _ h1⟩
            · exact .inr (.inl (List.mem_append_left _ h1))
            · rcases List.mem_cons.mp h1 with rfl | h2
              · exact .inl ⟨_, List.mem_append_right _ (List.mem_singleton.mpr rfl)⟩
              · exact .inr (.inr ⟨rfl, h2⟩)
          · have : i = states.length := by omega
            subst this
            rw [nth_append_len]
            exact .inr (.inl (List.mem_append_right _ (List.mem_singleton.mpr rfl))) }

theorem fold_inv {r : SRx} {keys : List String} {i0 : Nat} {s : List SRx} (ks : List String)
    (st : LState) (h : Inv r keys i0 ks st) (hi : i0 < st.2.1.length) (hs : nth st.2.1 i0 = s) :
    Inv r keys i0 [] (ks.foldl (keyStep s i0) st) := by
  induction ks generalizing st with
  | nil => exact h
  | cons k ks ih =>
    obtain ⟨h1, h2, h3⟩ := keyStep_inv h hi hs
    exact ih _ h1 h2 h3

theorem loopW_inv {r : SRx} {keys : List String} (fuel : Nat) (work states trans) (i0 : Nat)
    (h : Inv r keys i0 [] (work, states, trans)) :
    Inv r keys 0 [] (loopW keys fuel work states trans) := by
  induction fuel generalizing work states trans i0 with
  | zero => unfold loopW; exact h.change
  | succ n ih =>
    cases work with
    | nil => unfold loopW; exact h.change
    | cons s work =>
      unfold loopW
      dsimp only
      have hsin : s ∈ states := h.workSub s (List.mem_cons_self ..)
      cases hidx : states.idxOf? s with
      | none => exact absurd hsin (List.idxOf?_eq_none_iff.mp hidx)
      | some i =>
        obtain ⟨hil, his, -⟩ := List.idxOf?_eq_some_iff.mp hidx
        have hnth : nth states i = s := by rw [nth_eq_getElem hil]; exact his
        simp only [Option.getD_some]
        have hinv : Inv r keys i keys (work, states, trans) := { h with
          workSub := fun x hx => h.workSub x (List.mem_cons_of_mem _ hx)
          closed := by
            intro i' hil' k hk hne
            dsimp only at hil' hne ⊢
            rcases h.closed i' hil' k hk hne with h1 | h1 | ⟨_, h1⟩
            · exact .inl h1
            · rcases List.mem_cons.mp h1 with h2 | h2
              · refine .inr (.inr ⟨?_, hk⟩)
                rw [nth_eq_getElem hil', ← his] at h2
                exact (List.getElem_inj h.nodup).mp h2
              · exact .inr (.inl h2)
            · cases h1 }
        have := fold_inv keys (work, states, trans) hinv hil hnth
        exact ih _ _ _ i this

def autoOf (st : LState) : Cert.KAuto :=
  { start := 0, trans := st.2.2,
    acc := (List.range st.2.1.length).filter fun i => (st.2.1[i]?.getD []).any SRx.nullable }

theorem acceptsFrom_of_inv {r : SRx} {keys : List String} {st : LState}
    (hkeys : ∀ k, k ∈ keys ↔ k ∈ r.syms) (h : Inv r keys 0 [] st) (hw : st.1 = [])
    (w : List String) : ∀ i, i < st.2.1.length →
      ((autoOf st).acceptsFrom i w = true ↔ SetLang (nth st.2.1 i) w) := by
  induction w with
  | nil =>
    intro i hi
    rw [Cert.acceptsFrom_nil, setLang_nil]
    simp only [autoOf, List.contains_iff_mem, List.mem_filter, List.mem_range, nth, hi, true_and]
  | cons k w ih =>
    intro i hi
    rw [Cert.acceptsFrom_cons, setLang_cons]
    cases hs : (autoOf st).step i k with
    | none =>
      simp only [Bool.false_eq_true, false_iff]
      by_cases hk : k ∈ keys
      · by_cases hne : stepS (nth st.2.1 i) k = []
        · rw [hne]; rintro ⟨x, hx, _⟩; cases hx
        · rcases h.closed i hi k hk hne with ⟨j, h1⟩ | h1 | ⟨_, h1⟩
          · exact absurd h1 (Cert.not_mem_trans_of_step_none _ i k hs j)
          · rw [hw] at h1; cases h1
          · cases h1
      · intro hsl
        obtain ⟨x, hx, hxw⟩ := setLang_cons.mpr hsl
        exact hk ((hkeys k).mpr (h.good _ (nth_mem hi) x hx _ hxw k (List.mem_cons_self ..)))
    | some j =>
      obtain ⟨-, h2, -, h4⟩ := h.transOk _ (Cert.step_some_mem_trans _ i k j hs)
      simp only
      rw [ih _ h2]
      exact h4.setLang w

theorem toKAuto_eq (r : SRx) :
    r.toKAuto = autoOf (loopW (Cert.sortStrings r.syms) 4096 [[r]] [[r]] []) := by
  unfold SRx.toKAuto
  simp only [loop_eq, autoOf]

theorem init_inv (r : SRx) (keys : List String) : Inv r keys 0 [] ([[r]], [[r]], []) where
  start := rfl
  workSub := fun _ hx => hx
  nodup := by simp
  good := by
    intro S hS
    have : S = [r] := by simpa using hS
    subst this
    intro x hx w hw
    have : x = r := by simpa using hx
    subst this
    exact lang_syms hw
  transOk := by intro t ht; cases ht
  closed := by
    intro i hi k _ _
    have : i = 0 := by simpa using hi
    subst this
    exact .inr (.inl (by simp [nth]))

/-- Main theorem: when the construction for `r` finished within its fuel, the automaton accepts
exactly the language of `r` (over arbitrary keys). -/
theorem toKAuto_correct (r : SRx) (hfin : Finished r) :
    ∀ w : List String, (r.toKAuto).accepts w = true ↔ SRx.Lang r w := by
  intro w
  have hinv := loopW_inv (keys := Cert.sortStrings r.syms) 4096 [[r]] [[r]] [] 0
    (init_inv r (Cert.sortStrings r.syms))
  have hstart := hinv.start
  have hpos : 0 < (loopW (Cert.sortStrings r.syms) 4096 [[r]] [[r]] []).2.1.length := by
    cases hl : (loopW (Cert.sortStrings r.syms) 4096 [[r]] [[r]] []).2.1 with
    | nil => rw [hl] at hstart; cases hstart
    | cons _ _ => simp
  have h0 : nth (loopW (Cert.sortStrings r.syms) 4096 [[r]] [[r]] []).2.1 0 = [r] := by
    simp [nth, hstart]
  have := acceptsFrom_of_inv (fun k => mem_sortStrings) hinv hfin w 0 hpos
  rw [h0, setLang_singleton] at this
  rw [toKAuto_eq]
  exact this

end Complgen.Spec
