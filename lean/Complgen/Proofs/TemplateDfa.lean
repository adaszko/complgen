/-
**The emitted bash script interprets the automaton — the literal part.**

`S` is a script whose main tables are the tables the emitter writes for the automaton `a`
(`MainOf S a`: `S.main = Tables.ofAutoWith lits a cmds subId` for SOME order `lits` of the literal table
that lists the literals of `a`; `Tables.ofDfa d out` is the instance `mainOf_ofDfa`).  Over the model of
the template's run time (`Model/BashRt.lean`): one complete earlier word (`readWord_literal`,
`readWord_literal_only`), the walk over the earlier words (`walk_literals_iff`), the candidates for the
typed prefix (`mem_offer_literals`), the whole function (`ofDfa_complete_literals`).

Everything is proved through the embedding theorems of `Proofs/Tables.lean` (`E1_*`, `E2_*`, `E3_level_le`);
the table construction is not unfolded here, and nothing depends on the order of the literal table.
-/
import Complgen.Proofs.Tables
namespace Complgen.TemplateDfa
open BashRt Complgen.Tables

def MainOf (S : Script) (a : Auto) : Prop :=
  ∃ lits cmds subId, S.main = ofAutoWith lits a cmds subId ∧
    ∀ q txt d lvl t, HasEdge a q (.lit txt d lvl) t → (txt, d) ∈ lits

theorem mainOf_ofDfa (d : Dfa) (out : Nat → List String) : MainOf (ofDfa d out) d.main :=
  ⟨sortedLits d.main, commands d, subIdOf (subOrder d.main), rfl,
    fun _ _ _ _ _ he => sortedLits_cover_edge he⟩

def LitOnlyAt (a : Auto) (q : Nat) : Prop :=
  ∀ x t, HasEdge a q x t → ∃ txt d l, x = .lit txt d l

/-- the same TEXT, whatever the descriptions and levels: a typed word has one reading as a literal (C09) -/
def WordDetAt (a : Auto) (q : Nat) : Prop :=
  ∀ txt d l t1 d' l' t2, HasEdge a q (.lit txt d l) t1 → HasEdge a q (.lit txt d' l') t2 → t1 = t2

theorem litDetAt_of_wordDetAt {a : Auto} {q : Nat} (h : WordDetAt a q) : LitDetAt a q :=
  fun txt d l t1 d' l' t2 h1 h2 _ => h txt d l t1 d' l' t2 h1 h2

section litOnly
variable {T : BashRt.Tables} {lits : List (String × Option String)} {a : Auto} {cmds : List String}
  {subId : Nat → Option Nat} {q : Nat}

theorem cmdRow_litOnly (hT : T = ofAutoWith lits a cmds subId) (honly : LitOnlyAt a q)
    {row : List (Nat × Nat)} (hr : rowOf T.cmdTrans q = some row) : row = [] := by
  cases row with
  | nil => rfl
  | cons p r =>
    obtain ⟨c, lvl, he, _⟩ := E2_cmd_row_backward hT (k := p.1) (t := p.2) hr (by simp)
    obtain ⟨_, _, _, hx⟩ := honly _ _ he
    cases hx

theorem subRow_litOnly (hT : T = ofAutoWith lits a cmds subId) (honly : LitOnlyAt a q)
    {row : List (Nat × Nat)} (hr : rowOf T.subTrans q = some row) : row = [] := by
  cases row with
  | nil => rfl
  | cons p r =>
    obtain ⟨j, lvl, he, _⟩ := E2_sub_row_backward hT (j := p.1) (t := p.2) hr (by simp)
    obtain ⟨_, _, _, hx⟩ := honly _ _ he
    cases hx

theorem star_litOnly (hT : T = ofAutoWith lits a cmds subId) (honly : LitOnlyAt a q) :
    T.star.find? (·.1 == q) = none := by
  cases hf : T.star.find? (·.1 == q) with
  | none => rfl
  | some p =>
    obtain ⟨_, _, _, hx⟩ := honly _ _ ((E2_star hT).mp (mem_of_find?_key hf))
    cases hx

theorem cmdLevels_litOnly (hT : T = ofAutoWith lits a cmds subId) (honly : LitOnlyAt a q) (lvl : Nat) :
    idsAt T.cmdLevels lvl q = [] := by
  rw [List.eq_nil_iff_forall_not_mem]
  intro k hk
  obtain ⟨c, t, he, _⟩ := E2_cmd_level_backward hT hk
  obtain ⟨_, _, _, hx⟩ := honly _ _ he
  cases hx

theorem subLevels_litOnly (hT : T = ofAutoWith lits a cmds subId) (honly : LitOnlyAt a q) (lvl : Nat) :
    idsAt T.subLevels lvl q = [] := by
  rw [List.eq_nil_iff_forall_not_mem]
  intro k hk
  obtain ⟨j, t, he, _⟩ := E2_sub_level_backward hT hk
  obtain ⟨_, _, _, hx⟩ := honly _ _ he
  cases hx

end litOnly

def litLookup (T : BashRt.Tables) (q : Nat) (word : String) : Option Nat :=
  match rowOf T.litTrans q with
  | some row => (List.range T.literals.length).findSome? fun id =>
      if T.literals[id]? == some word then toOf row id else none
  | none => none

def subLookup (S : Script) (q : Nat) (word : String) : Option Nat :=
  match rowOf S.main.subTrans q with
  | some row => row.findSome? fun (id, to) => if subMatches (S.sub id) S.out word then some to else none
  | none => none

def cmdLookup (S : Script) (q : Nat) (word : String) : Option Nat :=
  ((rowOf S.main.cmdTrans q).getD []).findSome?
    fun (cmd, to) => if (S.out cmd).contains word then some to else none

def seenAt (S : Script) (q : Nat) : Bool :=
  ((rowOf S.main.cmdTrans q).getD []).any fun (cmd, _) => !((S.out cmd).filter (· ≠ "")).isEmpty

theorem readWord_eq (S : Script) (q : Nat) (word : String) : readWord S q word =
    match litLookup S.main q word with
    | some q' => (some q', false)
    | none =>
      match subLookup S q word with
      | some q' => (some q', false)
      | none =>
        match cmdLookup S q word with
        | some q' => (some q', seenAt S q)
        | none =>
          match S.main.star.find? (·.1 == q) with
          | some (_, q') => (some q', seenAt S q)
          | none => (none, seenAt S q) :=
  rfl

theorem walk_cons_some {S : Script} {q q' : Nat} {w : String} (h : (readWord S q w).1 = some q')
    (ws : List String) : walk S q (w :: ws) = walk S q' ws := by
  cases hr : readWord S q w with
  | mk o b =>
    rw [hr] at h
    cases h
    simp only [walk, hr]

theorem walk_cons_none {S : Script} {q : Nat} {w : String} (h : (readWord S q w).1 = none)
    (ws : List String) :
    walk S q (w :: ws) = if (readWord S q w).2 && ws.isEmpty then .state q else .unmatched := by
  cases hr : readWord S q w with
  | mk o b =>
    rw [hr] at h
    cases h
    simp only [walk, hr]

theorem litLookup_some {T : BashRt.Tables} {q : Nat} {w : String} {t : Nat} (h : litLookup T q w = some t) :
    ∃ row id, rowOf T.litTrans q = some row ∧ T.literals[id]? = some w ∧ toOf row id = some t := by
  unfold litLookup at h
  cases hr : rowOf T.litTrans q with
  | none => simp [hr] at h
  | some row =>
    simp only [hr] at h
    obtain ⟨id, _, hid⟩ := List.exists_of_findSome?_eq_some h
    by_cases hw : T.literals[id]? = some w
    · simp only [hw, beq_self_eq_true, if_true] at hid
      exact ⟨row, id, rfl, hw, hid⟩
    · have : (T.literals[id]? == some w) = false := by simpa using hw
      simp [this] at hid

theorem litLookup_isSome {T : BashRt.Tables} {q : Nat} {w : String} {row : List (Nat × Nat)} {k t0 : Nat}
    (hr : rowOf T.litTrans q = some row) (hk : T.literals[k]? = some w) (ht : toOf row k = some t0) :
    ∃ t, litLookup T q w = some t := by
  unfold litLookup
  simp only [hr]
  cases hf : (List.range T.literals.length).findSome? fun id =>
      if T.literals[id]? == some w then toOf row id else none with
  | some t => exact ⟨t, rfl⟩
  | none =>
    rw [List.findSome?_eq_none_iff] at hf
    have hlt : k < T.literals.length := (List.getElem?_eq_some_iff.mp hk).1
    have := hf k (List.mem_range.mpr hlt)
    simp [hk, ht] at this

section readWord
variable {S : Script} {a : Auto}

theorem litLookup_total (h : MainOf S a) {q : Nat} {w : String} {dsc : Option String} {lvl t : Nat}
    (he : HasEdge a q (.lit w dsc lvl) t) : ∃ t', litLookup S.main q w = some t' := by
  obtain ⟨lits, cmds, subId, hS, hcov⟩ := h
  obtain ⟨row, k, t', hr, hk, ht⟩ := E1_row_some hS (hcov _ _ _ _ _ he) he
  exact litLookup_isSome hr hk ht

theorem litLookup_sound (h : MainOf S a) {q : Nat} {w : String} {t : Nat}
    (hl : litLookup S.main q w = some t) : ∃ dsc lvl, HasEdge a q (.lit w dsc lvl) t := by
  obtain ⟨lits, cmds, subId, hS, _⟩ := h
  obtain ⟨row, id, hr, hid, ht⟩ := litLookup_some hl
  exact lit_of_row_entry hS hr hid ht

/-- A typed word equal to a literal expected at `q` moves on, to the target of SOME literal
transition with that text — whatever else is expected at `q` (the literal has priority); which one
depends on the order of the ids in the literal table. -/
theorem readWord_literal_any (h : MainOf S a) {q : Nat} {w : String} {dsc : Option String} {lvl t : Nat}
    (he : HasEdge a q (.lit w dsc lvl) t) :
    ∃ dsc' lvl' t', HasEdge a q (.lit w dsc' lvl') t' ∧ readWord S q w = (some t', false) := by
  obtain ⟨t', hl⟩ := litLookup_total h he
  obtain ⟨d', l', he'⟩ := litLookup_sound h hl
  exact ⟨d', l', t', he', by rw [readWord_eq, hl]⟩

theorem readWord_literal_some (h : MainOf S a) {q : Nat} {w : String} {dsc : Option String} {lvl t : Nat}
    (he : HasEdge a q (.lit w dsc lvl) t) (hdet : LitDetAt a q) :
    ∃ dsc' lvl' t', HasEdge a q (.lit w dsc' lvl') t' ∧ readWord S q w = (some t', false) :=
  readWord_literal_any h he

theorem readWord_literal (h : MainOf S a) {q : Nat} {w : String} {dsc : Option String} {lvl t : Nat}
    (he : HasEdge a q (.lit w dsc lvl) t) (hdet : WordDetAt a q) :
    readWord S q w = (some t, false) := by
  obtain ⟨d', l', t', he', hr⟩ := readWord_literal_any h he
  rw [hr, hdet w dsc lvl t d' l' t' he he']

theorem readWord_literal_fst (h : MainOf S a) {q : Nat} {w : String} {dsc : Option String} {lvl t : Nat}
    (he : HasEdge a q (.lit w dsc lvl) t) (hdet : WordDetAt a q) :
    (readWord S q w).1 = some t := by
  rw [readWord_literal h he hdet]

theorem readWord_litOnly (h : MainOf S a) {q : Nat} (honly : LitOnlyAt a q) (w : String) :
    readWord S q w = match litLookup S.main q w with
      | some q' => (some q', false)
      | none => (none, false) := by
  obtain ⟨lits, cmds, subId, hS, _⟩ := h
  have hsub : subLookup S q w = none := by
    unfold subLookup
    cases hr : rowOf S.main.subTrans q with
    | none => rfl
    | some row => rw [subRow_litOnly hS honly hr]; rfl
  have hcmd : (rowOf S.main.cmdTrans q).getD [] = [] := by
    cases hr : rowOf S.main.cmdTrans q with
    | none => rfl
    | some row => exact cmdRow_litOnly hS honly hr
  have hstar := star_litOnly hS honly
  rw [readWord_eq, hsub, hstar]
  unfold cmdLookup seenAt
  rw [hcmd]
  cases litLookup S.main q w <;> rfl

theorem readWord_literal_only (h : MainOf S a) {q : Nat} (honly : LitOnlyAt a q) {w : String} {t : Nat}
    (hr : (readWord S q w).1 = some t) : ∃ dsc lvl, HasEdge a q (.lit w dsc lvl) t := by
  rw [readWord_litOnly h honly] at hr
  cases hl : litLookup S.main q w with
  | none => simp [hl] at hr
  | some t' =>
    simp only [hl, Option.some.injEq] at hr
    subst hr
    exact litLookup_sound h hl

/-- `false`: the last-word heuristic does not apply (no command was expected). -/
theorem readWord_no_literal (h : MainOf S a) {q : Nat} (honly : LitOnlyAt a q) {w : String}
    (hno : ∀ dsc lvl t, ¬ HasEdge a q (.lit w dsc lvl) t) : readWord S q w = (none, false) := by
  rw [readWord_litOnly h honly]
  cases hl : litLookup S.main q w with
  | none => rfl
  | some t' =>
    obtain ⟨d, l, he⟩ := litLookup_sound h hl
    exact absurd he (hno d l t')

theorem readWord_litOnly_flag (h : MainOf S a) {q : Nat} (honly : LitOnlyAt a q) (w : String) :
    (readWord S q w).2 = false := by
  rw [readWord_litOnly h honly]
  cases litLookup S.main q w <;> rfl

end readWord

/-! ### the hypothesis on equal texts is needed

Two transitions out of state 0 on the same text with two descriptions and two targets (one transition
per (state, input); `LitDetAt` holds: the descriptions differ).  The template reads the word `a` as the
literal with the smaller id, `("a", "y")`, and moves to 2: the transition `0 --a "x"--> 1` of the automaton
is not followed. -/

def cexWord : Auto :=
  { start := 0, acc := [1, 2], inputs := [.lit "a" (some "x") 0, .lit "a" (some "y") 0],
    trans := [(0, 0, 1), (0, 1, 2)] }

def cexDfa : Dfa := { main := cexWord, subs := [] }

theorem bytesLt_irrefl : ∀ l : List UInt8, bytesLt l l = false
  | [] => rfl
  | x :: xs => by
    unfold bytesLt
    simp [bytesLt_irrefl xs]

theorem keyLe_same (t : String) (d d' : Option String) : keyLe (t, d) (t, d') = true := by
  unfold keyLe
  simp [bytesLt_irrefl]

theorem cexWord_sortedLits : sortedLits cexWord = [("a", some "y"), ("a", some "x")] := by
  have h : firstOcc (cexWord.inputs.filterMap litOfInp) = [("a", some "x"), ("a", some "y")] := by decide
  unfold sortedLits
  rw [h]
  simp [List.mergeSort, keyLe_same]

theorem cexWord_edge : HasEdge cexWord 0 (.lit "a" (some "x") 0) 1 := ⟨0, by decide, by decide⟩

theorem cexWord_edge' : HasEdge cexWord 0 (.lit "a" (some "y") 0) 2 := ⟨1, by decide, by decide⟩

theorem cexWord_litDet (q : Nat) : LitDetAt cexWord q := by
  rintro txt d l t1 d' l' t2 ⟨i, hi, hxi⟩ ⟨j, hj, hxj⟩ hdd
  have hi' : (q, i, t1) = (0, 0, 1) ∨ (q, i, t1) = (0, 1, 2) := by simpa [cexWord] using hi
  have hj' : (q, j, t2) = (0, 0, 1) ∨ (q, j, t2) = (0, 1, 2) := by simpa [cexWord] using hj
  have e0 : cexWord.inputs[0]? = some (.lit "a" (some "x") 0) := rfl
  have e1 : cexWord.inputs[1]? = some (.lit "a" (some "y") 0) := rfl
  rcases hi' with hi' | hi' <;> rcases hj' with hj' | hj' <;>
    simp only [Prod.mk.injEq] at hi' hj' <;>
    obtain ⟨_, rfl, rfl⟩ := hi' <;> obtain ⟨_, rfl, rfl⟩ := hj'
  · rfl
  · rw [e0] at hxi
    rw [e1] at hxj
    cases hxi
    cases hxj
    simp at hdd
  · rw [e1] at hxi
    rw [e0] at hxj
    cases hxi
    cases hxj
    simp at hdd
  · rfl

theorem cexWord_read : readWord (ofDfa cexDfa) 0 "a" = (some 2, false) := by
  unfold ofDfa ofAuto
  simp only [cexDfa]
  rw [cexWord_sortedLits]
  decide

/-- **`readWord_literal` is false with `LitDetAt` alone**: -/
theorem readWord_literal_needs_wordDet :
    ¬ ∀ (d : Dfa) (out : Nat → List String) (q : Nat) (w : String) (dsc : Option String) (lvl t : Nat),
      HasEdge d.main q (.lit w dsc lvl) t → LitDetAt d.main q → (readWord (ofDfa d out) q w).1 = some t := by
  intro hall
  have := hall cexDfa (fun _ => []) 0 "a" (some "x") 0 1 cexWord_edge (cexWord_litDet 0)
  have h2 : readWord (ofDfa cexDfa fun _ => []) 0 "a" = (some 2, false) := cexWord_read
  rw [h2] at this
  cases this

/-- … and whatever the order of the ids: no script can follow both transitions. -/
theorem readWord_literal_needs_wordDet' (S : Script) :
    ¬ ∀ (dsc : Option String) (lvl t : Nat),
      HasEdge cexWord 0 (.lit "a" dsc lvl) t → (readWord S 0 "a").1 = some t := by
  intro hall
  have h1 := hall _ _ _ cexWord_edge
  have h2 := hall _ _ _ cexWord_edge'
  rw [h1] at h2
  cases h2

inductive LitPath (a : Auto) : Nat → List String → Nat → Prop
  | nil (q : Nat) : LitPath a q [] q
  | cons {q q' qn : Nat} {w : String} {dsc : Option String} {lvl : Nat} {ws : List String} :
      HasEdge a q (.lit w dsc lvl) q' → LitPath a q' ws qn → LitPath a q (w :: ws) qn

def LitReach (a : Auto) (q0 q : Nat) : Prop := ∃ ws, LitPath a q0 ws q

theorem LitReach.refl {a : Auto} (q : Nat) : LitReach a q q := ⟨[], .nil q⟩

theorem LitReach.step {a : Auto} {q q' r : Nat} {w : String} {dsc : Option String} {lvl : Nat}
    (he : HasEdge a q (.lit w dsc lvl) q') (h : LitReach a q' r) : LitReach a q r := by
  obtain ⟨ws, hp⟩ := h
  exact ⟨w :: ws, .cons he hp⟩

section walk
variable {S : Script} {a : Auto}

theorem walk_literals (h : MainOf S a) {q0 qn : Nat} {ws : List String}
    (hdet : ∀ q, LitReach a q0 q → WordDetAt a q) (hp : LitPath a q0 ws qn) :
    walk S q0 ws = .state qn := by
  induction hp with
  | nil q => rfl
  | cons he _ ih =>
    simp only [walk, readWord_literal h he (hdet _ (LitReach.refl _))]
    exact ih fun q hq => hdet q (LitReach.step he hq)

theorem walk_literals_conv (h : MainOf S a) : ∀ (ws : List String) (q0 q : Nat),
    (∀ r, LitReach a q0 r → LitOnlyAt a r) → walk S q0 ws = .state q → LitPath a q0 ws q
  | [], q0, q, _, hw => by
    simp only [walk, Walk.state.injEq] at hw
    subst hw
    exact .nil q0
  | w :: ws, q0, q, honly, hw => by
    have ho := honly q0 (LitReach.refl _)
    cases hr : (readWord S q0 w).1 with
    | none =>
      rw [walk_cons_none hr, readWord_litOnly_flag h ho] at hw
      cases hw
    | some q' =>
      rw [walk_cons_some hr] at hw
      obtain ⟨d, l, he⟩ := readWord_literal_only h ho hr
      exact .cons he (walk_literals_conv h ws q' q (fun r hr => honly r (LitReach.step he hr)) hw)

theorem walk_literals_iff (h : MainOf S a) {q0 : Nat}
    (honly : ∀ r, LitReach a q0 r → LitOnlyAt a r) (hdet : ∀ r, LitReach a q0 r → WordDetAt a r)
    (ws : List String) (q : Nat) : walk S q0 ws = .state q ↔ LitPath a q0 ws q :=
  ⟨walk_literals_conv h ws q0 q honly, walk_literals h hdet⟩

theorem walk_unmatched_iff (h : MainOf S a) {q0 : Nat}
    (honly : ∀ r, LitReach a q0 r → LitOnlyAt a r) (hdet : ∀ r, LitReach a q0 r → WordDetAt a r)
    (ws : List String) : walk S q0 ws = .unmatched ↔ ¬ ∃ q, LitPath a q0 ws q := by
  constructor
  · rintro hw ⟨q, hp⟩
    rw [walk_literals h hdet hp] at hw
    cases hw
  · intro hno
    cases hw : walk S q0 ws with
    | unmatched => rfl
    | state q => exact absurd ⟨q, walk_literals_conv h ws q0 q honly hw⟩ hno

end walk

def Ext (a : Auto) (q : Nat) (p txt : String) (l : Nat) : Prop :=
  (∃ d t, HasEdge a q (.lit txt d l) t) ∧ isPrefix p.toList (txt ++ " ").toList = true

def Cand (a : Auto) (q : Nat) (p c : String) : Prop :=
  ∃ txt l, Ext a q p txt l ∧ c = txt ++ " " ∧ ∀ txt' l', Ext a q p txt' l' → l ≤ l'

section offer
variable {S : Script} {a : Auto}

theorem mem_levelCands (h : MainOf S a) {q lvl : Nat} {c : String} :
    c ∈ (idsAt S.main.litLevels lvl q).map (fun id => (S.main.literals[id]?.getD "") ++ " ") ↔
      ∃ txt d t, HasEdge a q (.lit txt d lvl) t ∧ c = txt ++ " " := by
  obtain ⟨lits, cmds, subId, hS, hcov⟩ := h
  rw [List.mem_map]
  constructor
  · rintro ⟨k, hk, rfl⟩
    obtain ⟨txt, d, t, he, _, hn⟩ := E1_level_backward hS hk
    exact ⟨txt, d, t, he, by rw [hn]; rfl⟩
  · rintro ⟨txt, d, t, he, rfl⟩
    obtain ⟨k, hk, hm, _⟩ := E1_forward hS (hcov _ _ _ _ _ he) he
    exact ⟨k, hm, by rw [hk]; rfl⟩

theorem mem_levelOut_litOnly (h : MainOf S a) {q : Nat} (honly : LitOnlyAt a q) (p c : String) (lvl : Nat) :
    c ∈ levelOut S q p lvl ↔ ∃ txt, Ext a q p txt lvl ∧ c = txt ++ " " := by
  unfold levelOut
  obtain ⟨lits, cmds, subId, hS, hcov⟩ := h
  rw [subLevels_litOnly hS honly, cmdLevels_litOnly hS honly, List.flatMap_nil, List.flatMap_nil,
    List.append_nil, List.append_nil, List.mem_filter, mem_levelCands ⟨lits, cmds, subId, hS, hcov⟩]
  constructor
  · rintro ⟨⟨txt, d, t, he, rfl⟩, hp⟩
    exact ⟨txt, ⟨⟨d, t, he⟩, hp⟩, rfl⟩
  · rintro ⟨txt, ⟨⟨d, t, he⟩, hp⟩, rfl⟩
    exact ⟨⟨txt, d, t, he, rfl⟩, hp⟩

/-- At a literal-only state the candidates offered for the typed prefix `p` are — as a set — the
texts `txt ++ " "` of the literal transitions out of `q` that extend `p` and whose level is the least
level at which some literal transition out of `q` extends `p`.  (The template accumulates the
candidates over the levels; the literals of the lower levels are filtered out again, since they did
not extend `p`: `offer_eq_firstLevel`.)  No determinism is needed. -/
theorem mem_offer_literals (h : MainOf S a) {q : Nat} (honly : LitOnlyAt a q) (p c : String) :
    c ∈ offer S q p ↔ Cand a q p c := by
  rw [offer_eq_firstLevel, mem_firstLevel_iff_least (fun l c => mem_levelOut_litOnly h honly p c l)
    (fun l c ⟨_, ⟨⟨_, _, he⟩, _⟩, _⟩ => h.elim fun _ ⟨_, _, hS, _⟩ => E3_level_le hS he rfl)]
  constructor
  · rintro ⟨L, ⟨txt, hext, rfl⟩, hmin⟩
    exact ⟨txt, L, hext, rfl, fun txt' l' h' => hmin l' _ ⟨txt', h', rfl⟩⟩
  · rintro ⟨txt, L, hext, rfl, hmin⟩
    exact ⟨L, ⟨txt, hext, rfl⟩, fun l c' ⟨txt', h', _⟩ => hmin txt' l h'⟩

theorem offer_literals (h : MainOf S a) {q : Nat} (honly : LitOnlyAt a q) (p c : String) :
    c ∈ offer S q p ↔
      ∃ txt dsc lvl t, HasEdge a q (.lit txt dsc lvl) t ∧ c = txt ++ " " ∧
        isPrefix p.toList c.toList = true ∧
        ∀ txt' dsc' lvl' t', HasEdge a q (.lit txt' dsc' lvl') t' →
          isPrefix p.toList (txt' ++ " ").toList = true → lvl ≤ lvl' := by
  rw [mem_offer_literals h honly]
  constructor
  · rintro ⟨txt, l, ⟨⟨d, t, he⟩, hpx⟩, rfl, hmin⟩
    exact ⟨txt, d, l, t, he, rfl, hpx, fun txt' d' l' t' he' hp' => hmin txt' l' ⟨⟨d', t', he'⟩, hp'⟩⟩
  · rintro ⟨txt, d, l, t, he, rfl, hpx, hmin⟩
    exact ⟨txt, l, ⟨⟨d, t, he⟩, hpx⟩, rfl, fun txt' l' ⟨⟨d', t', he'⟩, hp'⟩ => hmin txt' d' l' t' he' hp'⟩

theorem exists_least {P : Nat → Prop} : ∀ n, P n → ∃ l, P l ∧ ∀ l', P l' → l ≤ l' := by
  intro n
  induction n using Nat.strongRecOn with
  | ind n ih =>
    intro hn
    by_cases hlt : ∃ m, m < n ∧ P m
    · obtain ⟨m, hm, hpm⟩ := hlt
      exact ih m hm hpm
    · exact ⟨n, hn, fun l' hl' => Nat.le_of_not_lt fun hl => hlt ⟨l', hl, hl'⟩⟩

theorem nil_iff_of_mem_least {α : Type} {xs : List α} {P : Nat → α → Prop}
    (h : ∀ c, c ∈ xs ↔ ∃ L, P L c ∧ ∀ l c', P l c' → L ≤ l) : xs = [] ↔ ∀ l c, ¬ P l c := by
  constructor
  · intro hnil l c hc
    obtain ⟨l0, ⟨c0, hc0⟩, hmin⟩ := exists_least (P := fun l => ∃ c, P l c) l ⟨c, hc⟩
    have : c0 ∈ xs := (h c0).mpr ⟨l0, hc0, fun l' c' h' => hmin l' ⟨c', h'⟩⟩
    rw [hnil] at this
    cases this
  · intro hno
    rw [List.eq_nil_iff_forall_not_mem]
    intro c hc
    obtain ⟨L, hL, _⟩ := (h c).mp hc
    exact hno L c hL

theorem offer_literals_nil_iff (h : MainOf S a) {q : Nat} (honly : LitOnlyAt a q) (p : String) :
    offer S q p = [] ↔ ∀ txt l, ¬ Ext a q p txt l := by
  rw [offer_eq_firstLevel, nil_iff_of_mem_least
    (mem_firstLevel_iff_least (fun l c => mem_levelOut_litOnly h honly p c l)
      (fun l c ⟨_, ⟨⟨_, _, he⟩, _⟩, _⟩ => h.elim fun _ ⟨_, _, hS, _⟩ => E3_level_le hS he rfl))]
  exact ⟨fun hh txt l he => hh l _ ⟨txt, he, rfl⟩, fun hh l c ⟨txt, he, _⟩ => hh txt l he⟩

end offer

section complete
variable {S : Script} {a : Auto}

/-- the COMP_WORDBREAKS stripping of one candidate -/
def strip (p wb m : String) : String :=
  String.ofList (stripPrefix (superfluous p.toList wb.toList) m.toList)

/-- return code 1 exactly when the earlier words spell no path of literal transitions -/
theorem complete_literals_none_iff (h : MainOf S a) {q0 : Nat}
    (honly : ∀ r, LitReach a q0 r → LitOnlyAt a r) (hdet : ∀ r, LitReach a q0 r → WordDetAt a r)
    (ws : List String) (p wb : String) :
    complete S q0 ws p wb = none ↔ ¬ ∃ q, LitPath a q0 ws q := by
  rw [← walk_unmatched_iff h honly hdet]
  unfold complete
  cases walk S q0 ws <;> simp

/-- otherwise COMPREPLY is the stripped candidates of the state the path leads to -/
theorem complete_literals (h : MainOf S a) {q0 q : Nat} {ws : List String}
    (hdet : ∀ r, LitReach a q0 r → WordDetAt a r) (hp : LitPath a q0 ws q) (p wb : String) :
    complete S q0 ws p wb = some ((offer S q p).map (strip p wb)) := by
  unfold complete
  rw [walk_literals h hdet hp]
  rfl

theorem mem_complete_literals (h : MainOf S a) {q0 q : Nat} {ws : List String}
    (hdet : ∀ r, LitReach a q0 r → WordDetAt a r) (hp : LitPath a q0 ws q) (honly : LitOnlyAt a q)
    (p wb : String) :
    ∃ cs, complete S q0 ws p wb = some cs ∧
      ∀ c, c ∈ cs ↔ ∃ m, Cand a q p m ∧ c = strip p wb m := by
  refine ⟨_, complete_literals h hdet hp p wb, fun c => ?_⟩
  rw [List.mem_map]
  constructor
  · rintro ⟨m, hm, rfl⟩
    exact ⟨m, (mem_offer_literals h honly p m).mp hm, rfl⟩
  · rintro ⟨m, hm, rfl⟩
    exact ⟨m, (mem_offer_literals h honly p m).mpr hm, rfl⟩

end complete

section ofDfa
variable (d : Dfa) (out : Nat → List String)

theorem ofDfa_readWord_literal {q : Nat} {w : String} {dsc : Option String} {lvl t : Nat}
    (he : HasEdge d.main q (.lit w dsc lvl) t) (hdet : WordDetAt d.main q) :
    (readWord (ofDfa d out) q w).1 = some t :=
  readWord_literal_fst (mainOf_ofDfa d out) he hdet

theorem ofDfa_readWord_literal_only {q : Nat} (honly : LitOnlyAt d.main q) {w : String} {t : Nat}
    (hr : (readWord (ofDfa d out) q w).1 = some t) : ∃ dsc lvl, HasEdge d.main q (.lit w dsc lvl) t :=
  readWord_literal_only (mainOf_ofDfa d out) honly hr

theorem ofDfa_walk_literals_iff
    (honly : ∀ r, LitReach d.main d.main.start r → LitOnlyAt d.main r)
    (hdet : ∀ r, LitReach d.main d.main.start r → WordDetAt d.main r) (ws : List String) (q : Nat) :
    walk (ofDfa d out) d.main.start ws = .state q ↔ LitPath d.main d.main.start ws q :=
  walk_literals_iff (mainOf_ofDfa d out) honly hdet ws q

theorem ofDfa_offer_literals {q : Nat} (honly : LitOnlyAt d.main q) (p c : String) :
    c ∈ offer (ofDfa d out) q p ↔
      ∃ txt dsc lvl t, HasEdge d.main q (.lit txt dsc lvl) t ∧ c = txt ++ " " ∧
        isPrefix p.toList c.toList = true ∧
        ∀ txt' dsc' lvl' t', HasEdge d.main q (.lit txt' dsc' lvl') t' →
          isPrefix p.toList (txt' ++ " ").toList = true → lvl ≤ lvl' :=
  offer_literals (mainOf_ofDfa d out) honly p c

/-- **The emitted bash script interprets a literal-only automaton**: return code 1 exactly when the
earlier words spell no path from `q0`; otherwise COMPREPLY is, as a set, the stripped
`txt ++ " "` of the literal transitions out of the state the path leads to that extend the typed prefix
at the least level that has any. -/
theorem ofDfa_complete_literals {q0 : Nat}
    (honly : ∀ r, LitReach d.main q0 r → LitOnlyAt d.main r)
    (hdet : ∀ r, LitReach d.main q0 r → WordDetAt d.main r)
    (ws : List String) (p wb : String) :
    (complete (ofDfa d out) q0 ws p wb = none ↔ ¬ ∃ q, LitPath d.main q0 ws q) ∧
    ∀ q, LitPath d.main q0 ws q →
      ∃ cs, complete (ofDfa d out) q0 ws p wb = some cs ∧
        ∀ c, c ∈ cs ↔ ∃ m, Cand d.main q p m ∧ c = strip p wb m :=
  ⟨complete_literals_none_iff (mainOf_ofDfa d out) honly hdet ws p wb,
   fun q hp => mem_complete_literals (mainOf_ofDfa d out) hdet hp (honly q ⟨ws, hp⟩) p wb⟩

end ofDfa

end Complgen.TemplateDfa
