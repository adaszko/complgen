/-
C05: the two lexers of parse.rs, as modelled in `Model/Parse.lean`, read back what the printer
writes — for every text, not for samples: `description_roundtrip` for descriptions, `terminal_roundtrip`
(fewest escapes, `escT`) and `terminal_roundtrip_all` (every special character escaped, `escAll`) for
literals.  The three-phase loop of `terminal` (a run of regular characters, a run of escapes, fewer than
three dots, repeated) is first shown to compute what a decoder `dec'` that reads character by character
computes (`terminalLoop_eq_dec`); the inductions over printed texts are over `dec'`, not over the loop.
-/
import Complgen.Proofs.Position
namespace Complgen.Parse

theorem adv_zero (s : PState) : s.adv 0 = s := by
  obtain ⟨r, l, c⟩ := s; simp [PState.adv]

theorem adv_add' (s : PState) (m n : Nat) : (s.adv m).adv n = s.adv (m + n) := Pos.adv_add s m n

theorem adv_rest' (s : PState) (n : Nat) : (s.adv n).rest = s.rest.drop n := Pos.adv_rest s n

/-- a computed text is the text of a string literal: compared as strings.  The kernel reads a literal as
`String.ofList` of its characters at once, while `toList` of a literal is unfolded through the bytes. -/
theorem eq_toList_of_ofList_eq {l : List Char} {s : String} (h : String.ofList l = s) : l = s.toList :=
  h ▸ String.toList_ofList.symm

def plainD (c : Char) : Bool := c ≠ '"' && c ≠ '\\'

/-- the printer of descriptions -/
def escD : List Char → List Char
  | [] => []
  | c :: cs => if c = '"' then '\\' :: '"' :: escD cs else if c = '\\' then '\\' :: '\\' :: escD cs else c :: escD cs

theorem escD_append : ∀ a b : List Char, escD (a ++ b) = escD a ++ escD b
  | [], b => rfl
  | c :: a, b => by
    simp only [List.cons_append, escD, escD_append a b]
    split
    · rfl
    · split <;> rfl

theorem escD_plain : ∀ a : List Char, (∀ c ∈ a, plainD c = true) → escD a = a
  | [], _ => rfl
  | c :: a, h => by
    have hc := h c (by simp)
    simp only [plainD, Bool.and_eq_true, decide_eq_true_eq] at hc
    simp [escD, hc.1, hc.2, escD_plain a (fun x hx => h x (by simp [hx]))]

theorem takeWhile_run (p : Char → Bool) (run t : List Char) (h : ∀ c ∈ run, p c = true)
    (ht : t = [] ∨ ∃ x t', t = x :: t' ∧ p x = false) : (run ++ t).takeWhile p = run := by
  rw [List.takeWhile_append_of_pos h]
  rcases ht with rfl | ⟨x, t', rfl, hx⟩
  · simp
  · rw [List.takeWhile_cons_of_neg (by simp [hx]), List.append_nil]

theorem mem_takeWhile_sat (p : Char → Bool) (l : List Char) (c : Char) (h : c ∈ l.takeWhile p) :
    p c = true :=
  List.all_eq_true.mp List.all_takeWhile c h

theorem len_le_escD : ∀ d : List Char, d.length ≤ (escD d).length
  | [] => by simp [escD]
  | c :: cs => by
    have ih := len_le_escD cs
    simp only [escD]
    split
    · simp; omega
    · split <;> simp <;> omega

theorem dropWhile_head (p : Char → Bool) : ∀ l : List Char,
    l.dropWhile p = [] ∨ ∃ x t', l.dropWhile p = x :: t' ∧ p x = false
  | [] => .inl rfl
  | c :: l => by
    by_cases hc : p c = true
    · simp only [List.dropWhile, hc]; exact dropWhile_head p l
    · have : p c = false := by simpa using hc
      simp only [List.dropWhile, this]; exact .inr ⟨c, l, rfl, this⟩

theorem escD_head_special (x : Char) (t : List Char) (hx : plainD x = false) :
    ∃ y t', escD (x :: t) = '\\' :: y :: t' := by
  simp only [plainD, Bool.and_eq_false_iff, decide_eq_false_iff_not, ne_eq, Decidable.not_not] at hx
  rcases hx with h | h
  · subst h; exact ⟨'"', escD t, by simp [escD]⟩
  · subst h; exact ⟨'\\', escD t, by simp [escD]⟩

theorem descrLoop_roundtrip (rest : List Char) : ∀ (fuel : Nat) (d : List Char) (s : PState) (acc : List Char),
    s.rest = escD d ++ '"' :: rest → d.length + 1 ≤ fuel →
    descrLoop fuel s acc = (s.adv (escD d).length, acc ++ d)
  | 0, d, s, acc, _, hf => by omega
  | fuel + 1, d, s, acc, hs, hf => by
    have hsplit : d = d.takeWhile plainD ++ d.dropWhile plainD := (List.takeWhile_append_dropWhile).symm
    generalize hrun : d.takeWhile plainD = run at hsplit
    generalize hd2 : d.dropWhile plainD = d2 at hsplit
    have hrunp : ∀ c ∈ run, plainD c = true := by
      intro c hc; rw [← hrun] at hc; exact mem_takeWhile_sat plainD d c hc
    have hd2h : d2 = [] ∨ ∃ x t', d2 = x :: t' ∧ plainD x = false := by
      rw [← hd2]; exact dropWhile_head plainD d
    have hesc : escD d = run ++ escD d2 := by
      conv => lhs; rw [hsplit]
      rw [escD_append, escD_plain run hrunp]
    have htail : (escD d2 ++ '"' :: rest = [] ∨ ∃ x t', escD d2 ++ '"' :: rest = x :: t' ∧ plainD x = false) := by
      right
      rcases hd2h with rfl | ⟨x, t', rfl, hx⟩
      · exact ⟨'"', rest, rfl, by simp [plainD]⟩
      · obtain ⟨y, t'', he⟩ := escD_head_special x t' hx
        exact ⟨'\\', y :: t'' ++ '"' :: rest, by rw [he]; rfl, by simp [plainD]⟩
    have hlit : s.rest.takeWhile (fun c => c ≠ '"' && c ≠ '\\') = run := by
      rw [hs, hesc, List.append_assoc]
      exact takeWhile_run plainD run _ hrunp htail
    unfold descrLoop
    simp only [hlit]
    by_cases hre : run = []
    · subst hre
      simp only [List.isEmpty_nil, Bool.not_true, Bool.false_eq_true, if_false]
      simp only [List.nil_append] at hsplit hesc
      rcases hd2h with rfl | ⟨x, t', rfl, hx⟩
      · subst hsplit
        simp only [escD, List.nil_append] at hs
        rw [hs]
        simp [escD, adv_zero]
      · subst hsplit
        simp only [plainD, Bool.and_eq_false_iff, decide_eq_false_iff_not, ne_eq, Decidable.not_not] at hx
        rcases hx with h | h
        · subst h
          have hs' : s.rest = '\\' :: '"' :: (escD t' ++ '"' :: rest) := by rw [hs]; simp [escD]
          rw [hs']
          simp only
          have ih := descrLoop_roundtrip rest fuel t' (s.adv 2) (acc ++ ['"'])
            (by rw [adv_rest', hs']; simp) (by simp at hf; omega)
          rw [ih, adv_add', Nat.add_comm]
          simp [escD]
        · subst h
          have hs' : s.rest = '\\' :: '\\' :: (escD t' ++ '"' :: rest) := by rw [hs]; simp [escD]
          rw [hs']
          simp only
          have ih := descrLoop_roundtrip rest fuel t' (s.adv 2) (acc ++ ['\\'])
            (by rw [adv_rest', hs']; simp) (by simp at hf; omega)
          rw [ih, adv_add', Nat.add_comm]
          simp [escD]
    · have hne : run.isEmpty = false := by cases run with | nil => exact absurd rfl hre | cons _ _ => rfl
      simp only [hne, Bool.not_false, if_true]
      have hlen : d2.length + 1 ≤ fuel := by
        have : d.length = run.length + d2.length := by rw [hsplit]; simp
        have hr : run.length ≥ 1 := by cases run with | nil => exact absurd rfl hre | cons _ _ => simp
        omega
      have ih := descrLoop_roundtrip rest fuel d2 (s.adv run.length) (acc ++ run)
        (by rw [adv_rest', hs, hesc, List.append_assoc]; simp) hlen
      rw [ih, adv_add', hesc]
      rw [hsplit]
      simp [List.append_assoc]

/-- **A printed description is read back as the original text** and exactly its characters are
consumed, whatever follows. -/
theorem description_roundtrip (d rest : List Char) (s : PState) (hs : s.rest = '"' :: escD d ++ '"' :: rest) :
    description s = some (s.adv ((escD d).length + 2), String.ofList d) := by
  unfold description
  have h1 : char? '"' s = some (s.adv 1) := by simp [char?, hs]
  have hr1 : (s.adv 1).rest = escD d ++ '"' :: rest := by rw [adv_rest', hs]; simp
  have hl := descrLoop_roundtrip rest ((s.adv 1).rest.length + 1) d (s.adv 1) [] hr1 (by
    rw [hr1]; simp only [List.length_append, List.length_cons]
    have := len_le_escD d
    omega)
  have hr2 : ((s.adv 1).adv (escD d).length).rest = '"' :: rest := by
    rw [adv_rest', hr1]; simp
  have h3 : char? '"' ((s.adv 1).adv (escD d).length) = some (((s.adv 1).adv (escD d).length).adv 1) := by
    simp [char?, hr2]
  simp only [h1, hl, Option.bind_eq_bind, Option.bind_some, List.nil_append, h3]
  rw [adv_add', adv_add']
  have : 1 + ((escD d).length + 1) = (escD d).length + 2 := by omega
  rw [this]

/-! `dec'` reads a literal character by character: a regular character stands for itself, a backslash
followed by an escapable character for that character, one or two dots for themselves; three or more
dots, or any other character, end the literal; a backslash followed by anything else is an error. -/

def isEsc (c : Char) : Bool := Gen.terminalEscapable.contains c
def dotRun (l : List Char) : Nat := (l.takeWhile (· = '.')).length

/-- (decoded text, number of characters consumed); `none`: invalid escape -/
def dec : Nat → List Char → Option (List Char × Nat)
  | 0, _ => some ([], 0)
  | _ + 1, [] => some ([], 0)
  | f + 1, c :: r =>
    if isRegular c then (dec f r).map fun p => (c :: p.1, p.2 + 1)
    else if c = '\\' then
      match r with
      | x :: r' => if isEsc x then (dec f r').map fun p => (x :: p.1, p.2 + 2) else none
      | [] => none
    else if c = '.' then
      if dotRun (c :: r) ≥ 3 then some ([], 0)
      else (dec f ((c :: r).drop (dotRun (c :: r)))).map fun p =>
        (List.replicate (dotRun (c :: r)) '.' ++ p.1, p.2 + dotRun (c :: r))
    else some ([], 0)

def dec' (l : List Char) : Option (List Char × Nat) := dec l.length l

theorem dotRun_le (l : List Char) : dotRun l ≤ l.length :=
  (List.takeWhile_sublist _).length_le

theorem dotRun_pos (r : List Char) : dotRun ('.' :: r) ≥ 1 := by
  simp [dotRun, List.takeWhile]

theorem length_drop_dotRun (r : List Char) :
    (('.' :: r).drop (dotRun ('.' :: r))).length ≤ r.length := by
  have := dotRun_pos r
  simp only [List.length_drop, List.length_cons]; omega

theorem not_regular_backslash : isRegular '\\' = false := by decide
theorem not_regular_dot : isRegular '.' = false := by decide

theorem dec_regular (f : Nat) (c : Char) (r : List Char) (h : isRegular c = true) :
    dec (f + 1) (c :: r) = (dec f r).map fun p => (c :: p.1, p.2 + 1) := by
  simp only [dec, h, if_true]

theorem dec_esc (f : Nat) (x : Char) (r : List Char) :
    dec (f + 1) ('\\' :: x :: r) =
      if isEsc x then (dec f r).map fun p => (x :: p.1, p.2 + 2) else none := by
  simp only [dec, not_regular_backslash, Bool.false_eq_true, if_false, if_true]

theorem dec_esc_end (f : Nat) : dec (f + 1) ['\\'] = none := by
  simp only [dec, not_regular_backslash, Bool.false_eq_true, if_false, if_true]

theorem dec_dot (f : Nat) (r : List Char) :
    dec (f + 1) ('.' :: r) = if dotRun ('.' :: r) ≥ 3 then some ([], 0)
      else (dec f (('.' :: r).drop (dotRun ('.' :: r)))).map fun p =>
        (List.replicate (dotRun ('.' :: r)) '.' ++ p.1, p.2 + dotRun ('.' :: r)) := by
  have hne : ('.' : Char) ≠ '\\' := by decide
  simp only [dec, not_regular_dot, Bool.false_eq_true, if_false, hne, if_true]

theorem dec_other (f : Nat) (c : Char) (r : List Char) (h1 : isRegular c = false) (h2 : c ≠ '\\')
    (h3 : c ≠ '.') : dec (f + 1) (c :: r) = some ([], 0) := by
  simp only [dec, h1, h2, h3, Bool.false_eq_true, if_false]

theorem dec_fuel_irrel : ∀ (f g : Nat) (l : List Char), l.length ≤ f → l.length ≤ g → dec f l = dec g l
  | 0, g, l, h, _ => by
    obtain rfl := List.eq_nil_of_length_eq_zero (Nat.le_zero.mp h)
    cases g <;> rfl
  | _ + 1, g, [], _, _ => by cases g <;> rfl
  | _ + 1, 0, _ :: _, _, h => absurd h (by simp)
  | f + 1, g + 1, c :: r, hf, hg => by
    have hf' : r.length ≤ f := by simpa using hf
    have hg' : r.length ≤ g := by simpa using hg
    by_cases h1 : isRegular c = true
    · rw [dec_regular _ _ _ h1, dec_regular _ _ _ h1, dec_fuel_irrel f g r hf' hg']
    · by_cases h2 : c = '\\'
      · subst h2
        cases r with
        | nil => rw [dec_esc_end, dec_esc_end]
        | cons x r' =>
          rw [dec_esc, dec_esc, dec_fuel_irrel f g r' (Nat.le_of_succ_le hf') (Nat.le_of_succ_le hg')]
      · by_cases h3 : c = '.'
        · subst h3
          have hlen := length_drop_dotRun r
          rw [dec_dot, dec_dot, dec_fuel_irrel f g _ (Nat.le_trans hlen hf') (Nat.le_trans hlen hg')]
        · rw [dec_other _ _ _ (by simpa using h1) h2 h3, dec_other _ _ _ (by simpa using h1) h2 h3]

theorem dec_fuel (f : Nat) (l : List Char) (h : l.length ≤ f) : dec f l = dec l.length l :=
  dec_fuel_irrel f l.length l h (Nat.le_refl _)

theorem dec'_nil : dec' [] = some ([], 0) := rfl

theorem dec'_regular (c : Char) (r : List Char) (h : isRegular c = true) :
    dec' (c :: r) = (dec' r).map fun p => (c :: p.1, p.2 + 1) :=
  dec_regular _ c r h

theorem dec'_esc (x : Char) (r : List Char) :
    dec' ('\\' :: x :: r) = if isEsc x then (dec' r).map fun p => (x :: p.1, p.2 + 2) else none := by
  unfold dec'
  rw [List.length_cons, dec_esc, dec_fuel _ r (by simp)]

theorem dec'_esc_end : dec' ['\\'] = none := dec_esc_end _

theorem dec'_dot (r : List Char) :
    dec' ('.' :: r) = if dotRun ('.' :: r) ≥ 3 then some ([], 0)
      else (dec' (('.' :: r).drop (dotRun ('.' :: r)))).map fun p =>
        (List.replicate (dotRun ('.' :: r)) '.' ++ p.1, p.2 + dotRun ('.' :: r)) := by
  unfold dec'
  rw [List.length_cons, dec_dot, dec_fuel _ _ (length_drop_dotRun r)]

theorem dec'_other (c : Char) (r : List Char) (h1 : isRegular c = false) (h2 : c ≠ '\\') (h3 : c ≠ '.') :
    dec' (c :: r) = some ([], 0) :=
  dec_other _ c r h1 h2 h3

theorem dec'_regular_run : ∀ (part r : List Char), (∀ c ∈ part, isRegular c = true) →
    dec' (part ++ r) = (dec' r).map fun p => (part ++ p.1, p.2 + part.length)
  | [], r, _ => by
    cases h : dec' r with
    | none => simp [h]
    | some p => simp [h]
  | c :: part, r, h => by
    have hc := h c (by simp)
    have ih := dec'_regular_run part r (fun x hx => h x (by simp [hx]))
    rw [List.cons_append, dec'_regular c _ hc, ih]
    cases dec' r with
    | none => rfl
    | some p => simp [Nat.add_assoc]

theorem replicate_prefix_iff (a : Char) : ∀ (n : Nat) (l : List Char),
    List.replicate n a <+: l ↔ n ≤ (l.takeWhile (· = a)).length
  | 0, l => by simp
  | n + 1, [] => by simp
  | n + 1, b :: t => by
    by_cases hb : b = a
    · subst hb
      rw [List.replicate_succ, List.cons_prefix_cons, List.takeWhile_cons_of_pos (by simp),
        List.length_cons, replicate_prefix_iff b n t]
      simp
    · rw [List.takeWhile_cons_of_neg (by simpa using hb), List.replicate_succ, List.cons_prefix_cons]
      simp [Ne.symm hb]

theorem startsWith_dots (s : PState) : startsWith s "..." = true ↔ dotRun s.rest ≥ 3 := by
  unfold startsWith
  rw [List.isPrefixOf_iff_prefix]
  exact replicate_prefix_iff '.' 3 s.rest

theorem escLoop_nil (f : Nat) (s : PState) (acc : List Char) (n : Nat) (hr : s.rest = []) :
    escLoop (f + 1) s acc n = some (s, acc, n) := by
  unfold escLoop; rw [hr]

theorem escLoop_bs_end (f : Nat) (s : PState) (acc : List Char) (n : Nat) (hr : s.rest = ['\\']) :
    escLoop (f + 1) s acc n = none := by
  unfold escLoop; rw [hr]
  split
  · rename_i heq; cases heq
  · rfl
  · rename_i h1 h2; exact absurd rfl h2

theorem escLoop_bs (f : Nat) (s : PState) (acc : List Char) (n : Nat) (c : Char) (r' : List Char)
    (hr : s.rest = '\\' :: c :: r') :
    escLoop (f + 1) s acc n =
      if Gen.terminalEscapable.contains c then escLoop f (s.adv 2) (acc ++ [c]) (n + 1) else none := by
  conv => lhs; unfold escLoop
  rw [hr]
  split
  · rename_i heq; cases heq; rfl
  · rename_i heq; cases heq
  · rename_i h1 h2; exact absurd rfl (h1 c r')

theorem escLoop_stop (f : Nat) (s : PState) (acc : List Char) (n : Nat) (a : Char) (r : List Char)
    (hr : s.rest = a :: r) (ha : a ≠ '\\') : escLoop (f + 1) s acc n = some (s, acc, n) := by
  unfold escLoop; rw [hr]
  split
  · rename_i heq; cases heq; exact absurd rfl ha
  · rename_i heq; cases heq; exact absurd rfl ha
  · rfl

theorem escLoop_spec : ∀ (f : Nat) (s : PState) (acc : List Char) (n : Nat), s.rest.length + 1 ≤ f →
    match escLoop f s acc n with
    | none => dec' s.rest = none
    | some (s2, acc2, n2) => ∃ E : List Char, acc2 = acc ++ E ∧ n2 = n + E.length ∧ s2 = s.adv (2 * E.length) ∧
        dec' s.rest = (dec' s2.rest).map (fun p => (E ++ p.1, p.2 + 2 * E.length)) ∧
        (∀ r', s2.rest ≠ '\\' :: r')
  | 0, s, acc, n, h => by omega
  | f + 1, s, acc, n, h => by
    cases hr : s.rest with
    | nil =>
      rw [escLoop_nil f s acc n hr]
      simp only
      refine ⟨[], by simp, by simp, by simp [adv_zero], ?_, by rw [hr]; intro r' e; cases e⟩
      rw [hr]; simp [dec'_nil]
    | cons a r =>
      by_cases ha : a = '\\'
      · subst ha
        cases r with
        | nil => rw [escLoop_bs_end f s acc n hr]; exact dec'_esc_end
        | cons c r' =>
          rw [escLoop_bs f s acc n c r' hr]
          by_cases hc : Gen.terminalEscapable.contains c = true
          · simp only [hc, if_true]
            have hrest : (s.adv 2).rest = r' := by rw [adv_rest', hr]; rfl
            have ih := escLoop_spec f (s.adv 2) (acc ++ [c]) (n + 1) (by rw [hrest]; rw [hr] at h; simp at h; omega)
            cases he : escLoop f (s.adv 2) (acc ++ [c]) (n + 1) with
            | none =>
              rw [he] at ih
              simp only at ih ⊢
              rw [hrest] at ih
              rw [dec'_esc]
              simp only [isEsc, hc, if_true, ih, Option.map_none]
            | some res =>
              obtain ⟨s2, acc2, n2⟩ := res
              rw [he] at ih
              simp only at ih ⊢
              obtain ⟨E, h1, h2, h3, h4, h5⟩ := ih
              refine ⟨c :: E, by simp [h1], by simp [h2]; omega, ?_, ?_, h5⟩
              · rw [h3, adv_add']; congr 1; simp; omega
              · rw [dec'_esc]
                simp only [isEsc, hc, if_true]
                rw [hrest] at h4
                rw [h4]
                cases dec' s2.rest with
                | none => rfl
                | some p => simp; omega
          · have hc' : Gen.terminalEscapable.contains c = false := by simpa using hc
            simp only [hc', Bool.false_eq_true, if_false]
            rw [dec'_esc]
            simp only [isEsc, hc', Bool.false_eq_true, if_false]
      · rw [escLoop_stop f s acc n a r hr ha]
        simp only
        refine ⟨[], by simp, by simp, by simp [adv_zero], ?_, ?_⟩
        · rw [hr]
          cases dec' (a :: r) with
          | none => rfl
          | some p => simp
        · rw [hr]; intro r' e; cases e; exact ha rfl

theorem takeWhile_dots (l : List Char) : l.takeWhile (· = '.') = List.replicate (dotRun l) '.' := by
  unfold dotRun
  induction l with
  | nil => rfl
  | cons c l ih =>
    by_cases hc : c = '.'
    · subst hc
      rw [List.takeWhile_cons_of_pos (by simp)]
      simp only [List.length_cons, List.replicate_succ]
      rw [← ih]
    · rw [List.takeWhile_cons_of_neg (by simpa using hc)]
      rfl

theorem takeWhile_nil_head (p : Char → Bool) (a : Char) (r : List Char) (h : (a :: r).takeWhile p = []) :
    p a = false := by
  by_cases ha : p a = true
  · simp [List.takeWhile, ha] at h
  · simpa using ha

theorem dotRun_zero_head (a : Char) (r : List Char) (h : dotRun (a :: r) = 0) : a ≠ '.' := by
  intro e; subst e
  have := dotRun_pos r
  omega

theorem dotRun_pos_head (l : List Char) (h : dotRun l ≥ 1) : ∃ r, l = '.' :: r := by
  cases l with
  | nil => simp [dotRun] at h
  | cons a r =>
    by_cases ha : a = '.'
    · exact ⟨r, by rw [ha]⟩
    · simp [dotRun, List.takeWhile, ha] at h

theorem dec'_dots_stop (l : List Char) (h : dotRun l ≥ 3) : dec' l = some ([], 0) := by
  obtain ⟨r, rfl⟩ := dotRun_pos_head l (by omega)
  rw [dec'_dot, if_pos h]

theorem dec'_dots_few (l : List Char) (h : dotRun l < 3) :
    dec' l = (dec' (l.drop (dotRun l))).map fun p => (List.replicate (dotRun l) '.' ++ p.1, p.2 + dotRun l) := by
  by_cases hd0 : dotRun l = 0
  · rw [hd0]
    simp only [List.drop_zero, List.replicate_zero, List.nil_append, Nat.add_zero]
    cases dec' l <;> rfl
  · obtain ⟨r, rfl⟩ := dotRun_pos_head l (by omega)
    rw [dec'_dot, if_neg (by omega)]

theorem terminalLoop_nil (fuel : Nat) (s : PState) (acc : List Char) (hr : s.rest = []) :
    terminalLoop (fuel + 1) s acc = some (s, acc) := by
  have hsw : startsWith s "..." = false := by
    cases h : startsWith s "..." with
    | false => rfl
    | true => have := (startsWith_dots s).mp h; rw [hr] at this; simp [dotRun] at this
  unfold terminalLoop
  have h1 : s.rest.takeWhile isRegular = [] := by rw [hr]; rfl
  simp only [h1, List.length_nil, adv_zero, List.append_nil]
  have h2 : escLoop (s.rest.length + 1) s acc 0 = some (s, acc, 0) := escLoop_nil _ s acc 0 hr
  rw [h2]
  simp only [hsw, Bool.false_eq_true, if_false]
  have h3 : s.rest.takeWhile (· = '.') = [] := by rw [hr]; rfl
  simp only [h3, List.length_nil, adv_zero, List.append_nil, Nat.add_zero, if_true]

/-- **The terminal lexer is the reference decoder**: for every input and every accumulated prefix,
the three-phase loop of `terminal` (regular run, escapes, fewer than three dots, repeated) returns
what reading character by character returns. -/
theorem terminalLoop_eq_dec : ∀ (fuel : Nat) (s : PState) (acc : List Char), s.rest.length + 1 ≤ fuel →
    terminalLoop fuel s acc = (dec' s.rest).map fun p => (s.adv p.2, acc ++ p.1)
  | 0, s, acc, h => by omega
  | fuel + 1, s, acc, h => by
    cases hr : s.rest with
    | nil =>
      rw [terminalLoop_nil fuel s acc hr]
      simp [dec'_nil, adv_zero]
    | cons a0 r0 =>
      have hlen1 : s.rest.length ≥ 1 := by rw [hr]; simp
      rw [← hr]
      have hsplit : s.rest = s.rest.takeWhile isRegular ++ s.rest.dropWhile isRegular :=
        (List.takeWhile_append_dropWhile).symm
      generalize hpart : s.rest.takeWhile isRegular = part at hsplit
      generalize hr1 : s.rest.dropWhile isRegular = r1 at hsplit
      have hpartreg : ∀ c ∈ part, isRegular c = true := by
        intro c hc; rw [← hpart] at hc; exact mem_takeWhile_sat isRegular _ c hc
      have hs1 : (s.adv part.length).rest = r1 := by rw [adv_rest', hsplit]; simp
      have hP1 := dec'_regular_run part r1 hpartreg
      have hE := escLoop_spec ((s.adv part.length).rest.length + 1) (s.adv part.length) (acc ++ part) 0 (Nat.le_refl _)
      unfold terminalLoop
      simp only [hpart]
      cases hesc : escLoop ((s.adv part.length).rest.length + 1) (s.adv part.length) (acc ++ part) 0 with
      | none =>
        rw [hesc] at hE
        simp only at hE ⊢
        rw [hs1] at hE
        rw [hsplit, hP1, hE]; rfl
      | some res =>
        obtain ⟨s2, acc2, nesc⟩ := res
        rw [hesc] at hE
        simp only at hE ⊢
        obtain ⟨E, hacc2, hnesc, hs2, hdecE, hnobs⟩ := hE
        rw [hs1] at hdecE
        have hdec2 : dec' s.rest = (dec' s2.rest).map fun p => (part ++ E ++ p.1, p.2 + 2 * E.length + part.length) := by
          rw [hsplit, hP1, hdecE]
          cases dec' s2.rest with
          | none => rfl
          | some p => simp [List.append_assoc]
        have hs2' : s2 = s.adv (part.length + 2 * E.length) := by rw [hs2, adv_add']
        by_cases hsw : startsWith s2 "..." = true
        · simp only [hsw, if_true]
          rw [hdec2, dec'_dots_stop _ ((startsWith_dots s2).mp hsw)]
          simp only [Option.map_some, List.append_nil, Nat.zero_add]
          rw [hs2', hacc2]
          simp [List.append_assoc, Nat.add_comm]
        · have hsw' : startsWith s2 "..." = false := by simpa using hsw
          simp only [hsw', Bool.false_eq_true, if_false]
          have hrun : dotRun s2.rest < 3 := by
            rcases Nat.lt_or_ge (dotRun s2.rest) 3 with h1 | h1
            · exact h1
            · exact absurd ((startsWith_dots s2).mpr h1) hsw
          have hdots : s2.rest.takeWhile (· = '.') = List.replicate (dotRun s2.rest) '.' := takeWhile_dots _
          have hdl : (s2.rest.takeWhile (· = '.')).length = dotRun s2.rest := rfl
          by_cases htot : part.length + nesc + (s2.rest.takeWhile (· = '.')).length = 0
          · -- nothing consumed in this round: the literal ends here
            simp only [htot, if_true]
            have hp0 : part = [] := List.eq_nil_of_length_eq_zero (by omega)
            have hE0 : E = [] := List.eq_nil_of_length_eq_zero (by omega)
            have hd0 : dotRun s2.rest = 0 := by omega
            subst hp0; subst hE0
            simp only [List.length_nil, Nat.mul_zero, Nat.add_zero, adv_zero] at hs2'
            subst hs2'
            have hdecs : dec' s2.rest = some ([], 0) := by
              rw [hr]
              exact dec'_other a0 r0 (takeWhile_nil_head isRegular a0 r0 (hr ▸ hpart))
                (fun e => hnobs r0 (by rw [hr, e])) (dotRun_zero_head a0 r0 (hr ▸ hd0))
            rw [hdecs, hacc2, hdl, hd0]
            simp [adv_zero, hdots, hd0]
          · simp only [htot, if_false]
            have hs3rest : (s2.adv (s2.rest.takeWhile (· = '.')).length).rest = s2.rest.drop (dotRun s2.rest) := by
              rw [adv_rest', hdl]
            have hs2len : s2.rest.length = s.rest.length - (part.length + 2 * E.length) := by
              rw [hs2', adv_rest', List.length_drop]
            have hfuel : (s2.adv (s2.rest.takeWhile (· = '.')).length).rest.length + 1 ≤ fuel := by
              rw [adv_rest', List.length_drop, hdl, hs2len]
              rw [hdl] at htot
              omega
            rw [terminalLoop_eq_dec fuel _ _ hfuel, hs3rest, hdec2, dec'_dots_few _ hrun, hdots]
            simp only [List.length_replicate]
            rw [hacc2]
            cases dec' (s2.rest.drop (dotRun s2.rest)) with
            | none => rfl
            | some p =>
              simp only [Option.map_some, adv_add', List.append_assoc]
              have hadv : ∀ k, s2.adv k = s.adv (part.length + 2 * E.length + k) := fun k => by
                rw [hs2', adv_add']
              rw [hadv]
              have harith : part.length + 2 * E.length + (dotRun s2.rest + p.2) =
                  p.2 + dotRun s2.rest + 2 * E.length + part.length := by omega
              rw [harith]

theorem terminal_eq_dec (s : PState) :
    terminal s = match dec' s.rest with
      | none => none
      | some (t, n) => if t.isEmpty then none else some (s.adv n, String.ofList t) := by
  unfold terminal
  rw [terminalLoop_eq_dec _ s [] (Nat.le_refl _)]
  cases dec' s.rest with
  | none => rfl
  | some p => simp

theorem terminal_of_dec (s : PState) (t : List Char) (n : Nat) (hd : dec' s.rest = some (t, n))
    (ht : t ≠ []) : terminal s = some (s.adv n, String.ofList t) := by
  rw [terminal_eq_dec, hd]
  have : t.isEmpty = false := by cases t with | nil => exact absurd rfl ht | cons _ _ => rfl
  simp [this]

/-- the printer with the fewest escapes: a character that is not regular gets a backslash, a dot only
when two unescaped dots stand right before it (`k` counts them) -/
def escT : Nat → List Char → List Char
  | _, [] => []
  | k, c :: t =>
    if c = '.' then (if k ≥ 2 then '\\' :: '.' :: escT 0 t else '.' :: escT (k + 1) t)
    else if isRegular c then c :: escT 0 t
    else '\\' :: c :: escT 0 t

/-- what may follow a literal: the end of the input or a character that cannot continue it -/
def Terminates (rest : List Char) : Prop :=
  rest = [] ∨ ∃ x r, rest = x :: r ∧ isRegular x = false ∧ x ≠ '\\' ∧ x ≠ '.'

def NotDotHead (l : List Char) : Prop := l = [] ∨ ∃ x r, l = x :: r ∧ x ≠ '.'

theorem dotRun_notDot (l : List Char) (h : NotDotHead l) : dotRun l = 0 := by
  rcases h with rfl | ⟨x, r, rfl, hx⟩
  · rfl
  · simp [dotRun, List.takeWhile, hx]

theorem dotRun_cons_dot (l : List Char) : dotRun ('.' :: l) = dotRun l + 1 := by
  simp [dotRun, List.takeWhile]

theorem escT_notDot (k : Nat) (t X : List Char) (ht : t ≠ [])
    (h : (∃ c t', t = c :: t' ∧ c ≠ '.') ∨ k ≥ 2) : NotDotHead (escT k t ++ X) := by
  cases t with
  | nil => exact absurd rfl ht
  | cons c t' =>
    by_cases hc : c = '.'
    · subst hc
      rcases h with ⟨c, t'', h, hne⟩ | h
      · cases h; exact absurd rfl hne
      · simp only [escT, if_true, h]
        exact .inr ⟨'\\', _, rfl, by decide⟩
    · simp only [escT, hc, if_false]
      split
      · exact .inr ⟨c, _, rfl, hc⟩
      · exact .inr ⟨'\\', _, rfl, by decide⟩

theorem escT_reset (k : Nat) (t : List Char) (h : t = [] ∨ ∃ c t', t = c :: t' ∧ c ≠ '.') :
    escT k t = escT 0 t := by
  rcases h with rfl | ⟨c, t', rfl, hc⟩
  · rfl
  · simp [escT, hc]

theorem terminates_notDot (rest : List Char) (h : Terminates rest) : NotDotHead rest := by
  rcases h with rfl | ⟨x, r, rfl, _, _, hx⟩
  · exact .inl rfl
  · exact .inr ⟨x, r, rfl, hx⟩

theorem dec'_terminates (rest : List Char) (h : Terminates rest) : dec' rest = some ([], 0) := by
  rcases h with rfl | ⟨x, r, rfl, h1, h2, h3⟩
  · rfl
  · exact dec'_other x r h1 h2 h3

theorem escT_dot_lt (k : Nat) (t : List Char) (h : k < 2) : escT k ('.' :: t) = '.' :: escT (k + 1) t := by
  have : ¬ k ≥ 2 := by omega
  simp [escT, this]

theorem escT_dot_ge (k : Nat) (t : List Char) (h : k ≥ 2) : escT k ('.' :: t) = '\\' :: '.' :: escT 0 t := by
  simp [escT, h]

theorem escT_reg (k : Nat) (c : Char) (t : List Char) (hc : c ≠ '.') (h : isRegular c = true) :
    escT k (c :: t) = c :: escT 0 t := by simp [escT, hc, h]

theorem escT_special (k : Nat) (c : Char) (t : List Char) (hc : c ≠ '.') (h : isRegular c = false) :
    escT k (c :: t) = '\\' :: c :: escT 0 t := by simp [escT, hc, h]

namespace Full

/-- the condition under which a literal can be followed by `rest`: `rest` does not begin with a dot, or
the literal does not end with one -/
def DotOK (t rest : List Char) : Prop := NotDotHead rest ∨ t.getLast? ≠ some '.'

theorem DotOK.tail {rest : List Char} {c : Char} {t : List Char} (h : DotOK (c :: t) rest) : DotOK t rest := by
  rcases h with h | h
  · exact .inl h
  · right
    cases t with
    | nil => simp
    | cons x t' => simpa [List.getLast?_cons_cons] using h

theorem DotOK.nil (rest : List Char) : DotOK [] rest := .inr (by simp)

/-- a printed literal is read back as the original text before every continuation at which the decoder stops
(`...` included), provided the literal does not end with a dot when the continuation starts with one -/
theorem dec_escT_gen (rest : List Char) (hdec : dec' rest = some ([], 0)) : ∀ (n : Nat) (t : List Char),
    t.length ≤ n → (∀ c ∈ t, isRegular c = true ∨ isEsc c = true) → DotOK t rest →
    dec' (escT 0 t ++ rest) = some (t, (escT 0 t).length)
  | _, [], _, _, _ => by simpa [escT] using hdec
  | 0, c :: t, h, _, _ => by simp at h
  | n + 1, c :: t, hlen, hperm, hok => by
    have hlen' : t.length ≤ n := by simpa using hlen
    have hperm' : ∀ x ∈ t, isRegular x = true ∨ isEsc x = true := fun x hx => hperm x (by simp [hx])
    have hok' : DotOK t rest := hok.tail
    by_cases hc : c = '.'
    · subst hc
      rw [escT_dot_lt 0 t (by omega)]
      cases t with
      | nil =>
        have hnd : NotDotHead rest := by
          rcases hok with h | h
          · exact h
          · simp at h
        have hrun : dotRun ('.' :: rest) = 1 := by
          rw [dotRun_cons_dot, dotRun_notDot rest hnd]
        simp only [escT, List.cons_append, List.nil_append]
        rw [dec'_dot, hrun]
        simp [hdec]
      | cons c2 t2 =>
        by_cases hc2 : c2 = '.'
        · subst hc2
          rw [escT_dot_lt 1 t2 (by omega)]
          have hok2 : DotOK t2 rest := hok'.tail
          have hnd : NotDotHead (escT 2 t2 ++ rest) := by
            cases t2 with
            | nil =>
              rcases hok' with h | h
              · simpa [escT] using h
              · simp at h
            | cons c3 t3 => exact escT_notDot 2 _ rest (by simp) (.inr (Nat.le_refl _))
          have hrun : dotRun ('.' :: '.' :: (escT 2 t2 ++ rest)) = 2 := by
            rw [dotRun_cons_dot, dotRun_cons_dot, dotRun_notDot _ hnd]
          simp only [List.cons_append]
          rw [dec'_dot, hrun]
          simp only [show ¬ (2 ≥ 3) by omega, if_false, List.drop_succ_cons, List.drop_zero]
          cases t2 with
          | nil =>
            simp [escT, hdec, List.replicate]
          | cons c3 t3 =>
            by_cases hc3 : c3 = '.'
            · subst hc3
              rw [escT_dot_ge 2 t3 (Nat.le_refl _)]
              simp only [List.cons_append]
              rw [dec'_esc]
              have hesc : isEsc '.' = true := by decide +kernel
              simp only [hesc, if_true]
              have ih := dec_escT_gen rest hdec n t3 (by simp at hlen'; omega)
                (fun x hx => hperm x (by simp [hx])) hok2.tail
              rw [ih]
              simp [List.replicate]
            · have hpr3 : escT 2 (c3 :: t3) = escT 0 (c3 :: t3) :=
                escT_reset 2 _ (.inr ⟨c3, t3, rfl, hc3⟩)
              rw [hpr3]
              have ih := dec_escT_gen rest hdec n (c3 :: t3) (by simp at hlen' ⊢; omega)
                (fun x hx => hperm x (by
                  simp only [List.mem_cons] at hx ⊢
                  exact .inr (.inr hx))) hok2
              rw [ih]
              simp [List.replicate]
        · rw [escT_reset 1 _ (.inr ⟨c2, t2, rfl, hc2⟩)]
          simp only [List.cons_append]
          have hnd : NotDotHead (escT 0 (c2 :: t2) ++ rest) :=
            escT_notDot 0 _ rest (by simp) (.inl ⟨c2, t2, rfl, hc2⟩)
          have hrun : dotRun ('.' :: (escT 0 (c2 :: t2) ++ rest)) = 1 := by
            rw [dotRun_cons_dot, dotRun_notDot _ hnd]
          rw [dec'_dot, hrun]
          simp only [show ¬ (1 ≥ 3) by omega, if_false, List.drop_succ_cons, List.drop_zero]
          have ih := dec_escT_gen rest hdec n (c2 :: t2) hlen' hperm' hok'
          rw [ih]
          simp [List.replicate]
    · by_cases hreg : isRegular c = true
      · rw [escT_reg 0 c t hc hreg]
        simp only [List.cons_append]
        rw [dec'_regular c _ hreg, dec_escT_gen rest hdec n t hlen' hperm' hok']
        simp
      · have hreg' : isRegular c = false := by simpa using hreg
        have hesc : isEsc c = true := by
          rcases hperm c (by simp) with h | h
          · rw [h] at hreg'; cases hreg'
          · exact h
        rw [escT_special 0 c t hc hreg']
        simp only [List.cons_append]
        rw [dec'_esc, dec_escT_gen rest hdec n t hlen' hperm' hok']
        simp [hesc]

theorem terminal_roundtrip_gen (t rest : List Char) (s : PState) (ht : t ≠ [])
    (hperm : ∀ c ∈ t, isRegular c = true ∨ isEsc c = true) (hdec : dec' rest = some ([], 0))
    (hok : DotOK t rest) (hs : s.rest = escT 0 t ++ rest) :
    terminal s = some (s.adv (escT 0 t).length, String.ofList t) :=
  terminal_of_dec s t _ (hs ▸ dec_escT_gen rest hdec t.length t (Nat.le_refl _) hperm hok) ht

end Full

/-- **A printed literal is read back as the original text**: every text over the permitted characters,
printed with the fewest escapes and followed by anything that cannot continue a literal. -/
theorem dec_escT (rest : List Char) (hrest : Terminates rest) : ∀ (n : Nat) (t : List Char), t.length ≤ n →
    (∀ c ∈ t, isRegular c = true ∨ isEsc c = true) →
    dec' (escT 0 t ++ rest) = some (t, (escT 0 t).length) :=
  fun n t hlen hperm => Full.dec_escT_gen rest (dec'_terminates rest hrest) n t hlen hperm
    (.inl (terminates_notDot rest hrest))

/-- **`terminal` reads back what the printer writes**, consuming exactly the printed characters. -/
theorem terminal_roundtrip (t rest : List Char) (s : PState) (ht : t ≠ [])
    (hperm : ∀ c ∈ t, isRegular c = true ∨ isEsc c = true) (hrest : Terminates rest)
    (hs : s.rest = escT 0 t ++ rest) :
    terminal s = some (s.adv (escT 0 t).length, String.ofList t) :=
  Full.terminal_roundtrip_gen t rest s ht hperm (dec'_terminates rest hrest)
    (.inl (terminates_notDot rest hrest)) hs

def escAll : List Char → List Char
  | [] => []
  | c :: t => if isRegular c then c :: escAll t else '\\' :: c :: escAll t

theorem dec_escAll (rest : List Char) (hrest : Terminates rest) : ∀ t : List Char,
    (∀ c ∈ t, isRegular c = true ∨ isEsc c = true) →
    dec' (escAll t ++ rest) = some (t, (escAll t).length)
  | [], _ => by simpa [escAll] using dec'_terminates rest hrest
  | c :: t, hperm => by
    have ih := dec_escAll rest hrest t (fun x hx => hperm x (by simp [hx]))
    by_cases hreg : isRegular c = true
    · simp only [escAll, hreg, if_true, List.cons_append]
      rw [dec'_regular c _ hreg, ih]; simp
    · have hreg' : isRegular c = false := by simpa using hreg
      have hesc : isEsc c = true := by
        rcases hperm c (by simp) with h | h
        · rw [h] at hreg'; cases hreg'
        · exact h
      simp only [escAll, hreg', Bool.false_eq_true, if_false, List.cons_append]
      rw [dec'_esc, ih]; simp [hesc]

theorem terminal_roundtrip_all (t rest : List Char) (s : PState) (ht : t ≠ [])
    (hperm : ∀ c ∈ t, isRegular c = true ∨ isEsc c = true) (hrest : Terminates rest)
    (hs : s.rest = escAll t ++ rest) :
    terminal s = some (s.adv (escAll t).length, String.ofList t) :=
  terminal_of_dec s t _ (hs ▸ dec_escAll rest hrest t hperm) ht

end Complgen.Parse
