/-
C13 / C05 (operator ladder): in the tree the expression ladder of `Model/Parse.lean` returns for a tree of `NF'`
(`Proofs/LadderFull.lean`: escaped literals, descriptions, descriptions distributed over groups `.dd`, words
built by juxtaposition `.sub`) printed with arbitrary admissible blanks and comments (`ppL' lay`,
`Proofs/LadderFullLayout.lean`), EVERY SPAN POINTS AT ITS CONSTRUCT (`fallback_spans_full_layout`).  The
statements about `fallback` reading a printed tree back are corollaries: the tree is the printed one up to
spans (`fallback_roundtrip_full_layout`), two layouts are read as the same tree (`layout_irrelevant_full`), the
plain printer is a layout (`fallback_roundtrip_full`), the smaller fragment `NF` with its layouts and its plain
printer is part of the larger one (`fallback_roundtrip_layout`, `layout_irrelevant`, `fallback_roundtrip`), and
on it the spans are those of `Placed` (`fallback_spans`).

`PlacedL' lay ctx s e e'` — the parsed tree `e'` is `e` with, at every node, the span the parser computes when
the text `ppL' lay ctx e` starts at the state `s` — follows the printer.  Which text the span of a node covers
(this is what `parse.rs` does, read off the model, not an ideal):
  * a literal without description: the escaped literal `escT 0 t`, nothing else;
  * a literal with its description: the literal, the layout before the `"`, and the description up to the
    closing `"` (`unary_expr` takes the range after `opt(preceded(multiblanks0, description))`);
  * `<N>`: from `<` to `>`;  `{{{ c }}}`: from the first `{` to the last `}`;
  * `[ … ]`: from `[` to `]`, the layout inside included; the child starts after `[` and the layout behind it;
  * postfix `...`: from the first character of the operand — its opening parenthesis when it has one — over the
    layout before the dots to the last dot; the operand is laid out from the same state;
  * `.dd c d` (`c "d"`): from the first character of `c` printed in context 5 — its opening parenthesis when it
    has one: `(a | b) "d"` starts at `(` — over the layout before the `"` to the closing `"`;
  * `.seq`, `.alt`, `.fb`: from the first character of the first child (its parenthesis, if any) to the last
    character of the last child; no layout before or after, the separators and the layout between the children
    included;
  * a word `.sub (.seq fs _) 0 _`: both the `.sub` node and the `.seq` node under it carry the same span, from the
    first character of the first factor to the last character of the last factor; the factors follow one another
    directly;
  * a parenthesis the context forces around a node (`parenthesized_expr` returns the inner tree unchanged) is not
    part of the node: the node starts after `(` and the layout behind it (`skipParenL`) and ends before the
    layout in front of `)`.
`Placed ctx s e e'` is the same for the plain printer `pp` on `NF`; at the plain layout `PlacedL'` is `Placed`
(`placed_of_plain`).

Further: all spans in preorder as offsets into the text (`spansOf`, `offsL'`, `PlacedL'.spans`; `offs`,
`Placed.spans`); the characters between the two offsets of a node are the node's own text (`ownTexts`: its
text under the layout, without the parentheses and the layout inside them that the context forces,
`offsL'_own_text`; `offs_own_text`); the absolute form in a file (`fallback_spans_full_in_file`,
`fallback_spans_in_file`).

Proof: one induction over the tree (`all_levels`), all seven levels of the ladder at once (`LevelsRead`), with the
lemmas of `Proofs/Ladder.lean`; what follows an item or a factor is of the right class by
`Proofs/LadderFullLayout.lean` (`heads`, `tail*_contL`).
-/
import Complgen.Proofs.LadderFullLayout
namespace Complgen.Parse
open Complgen.Parse.Full

def skipParen (b : Bool) (s : PState) : PState := if b then s.adv 1 else s

mutual
/-- `Placed ctx s e e'`: the tree `e'` is the tree `e` with, at every node, the span of the text the
printer `pp ctx e` wrote for that node when the text of `e` starts at state `s`.
A parenthesis printed around a list operator or a postfix `...` is not part of the node
(`parenthesized_expr` returns the inner expression unchanged). -/
def Placed : Nat → PState → Expr → Expr → Prop
  | _, s, .term t d l _, e' => e' = .term t d l (fromRange s (s.adv t.toList.length))
  | _, s, .nonterm n l _, e' => e' = .nonterm n l (fromRange s (s.adv (n.toList.length + 2)))
  | _, s, .cmd c a l _, e' => e' = .cmd c a l (fromRange s (s.adv (cmdText c.toList).length))
  | ctx, s, .seq cs _, e' =>
    ∃ cs', e' = .seq cs' (fromRange (skipParen (decide (3 ≤ ctx)) s)
        ((skipParen (decide (3 ≤ ctx)) s).adv (ppList 3 sepS cs).length)) ∧
      PlacedL 3 sepS (skipParen (decide (3 ≤ ctx)) s) cs cs'
  | ctx, s, .alt cs _, e' =>
    ∃ cs', e' = .alt cs' (fromRange (skipParen (decide (2 ≤ ctx)) s)
        ((skipParen (decide (2 ≤ ctx)) s).adv (ppList 2 sepA cs).length)) ∧
      PlacedL 2 sepA (skipParen (decide (2 ≤ ctx)) s) cs cs'
  | ctx, s, .fb cs _, e' =>
    ∃ cs', e' = .fb cs' (fromRange (skipParen (decide (1 ≤ ctx)) s)
        ((skipParen (decide (1 ≤ ctx)) s).adv (ppList 1 sepF cs).length)) ∧
      PlacedL 1 sepF (skipParen (decide (1 ≤ ctx)) s) cs cs'
  | _, s, .opt c _, e' =>
    ∃ c', e' = .opt c' (fromRange s (s.adv ((pp 0 c).length + 2))) ∧ Placed 0 (s.adv 1) c c'
  | ctx, s, .many1 c _, e' =>
    ∃ c', e' = .many1 c' (fromRange (skipParen (decide (4 ≤ ctx)) s)
        ((skipParen (decide (4 ≤ ctx)) s).adv ((pp 4 c).length + 3))) ∧
      Placed 4 (skipParen (decide (4 ≤ ctx)) s) c c'
  | _, _, .dd _ _ _, _ => False
  | _, _, .sub _ _ _, _ => False
def PlacedL : Nat → List Char → PState → ExprL → ExprL → Prop
  | _, _, _, .nil, es' => es' = .nil
  | ctx, sep, s, .cons e es, es' =>
    ∃ e' r', es' = .cons e' r' ∧ Placed ctx s e e' ∧ PlacedTail ctx sep (s.adv (pp ctx e).length) es r'
def PlacedTail : Nat → List Char → PState → ExprL → ExprL → Prop
  | _, _, _, .nil, es' => es' = .nil
  | ctx, sep, s, .cons e es, es' =>
    ∃ e' r', es' = .cons e' r' ∧ Placed ctx (s.adv sep.length) e e' ∧
      PlacedTail ctx sep ((s.adv sep.length).adv (pp ctx e).length) es r'
end

namespace Full

def skipParenL (lay : Layout') (b : Bool) (s : PState) : PState :=
  if b then s.adv (1 + (lay.opn []).length) else s

mutual
/-- `PlacedL' lay ctx s e e'`: the tree `e'` is the tree `e` with, at every node, the span the parser computes
for that node when the text `ppL' lay ctx e` starts at state `s` (see the head of the file for the text each
kind of node covers) -/
def PlacedL' : Layout' → Nat → PState → Expr → Expr → Prop
  | lay, ctx, s, .term t none l _, e' =>
    e' = .term t none l (spanOf (skipParenL lay (ctx == 5 || (ctx == 4 && endsDot t.toList)) s)
      (escT 0 t.toList).length)
  | lay, _, s, .term t (some d) l _, e' =>
    e' = .term t (some d) l (spanOf s (escT 0 t.toList ++ descrTextL (lay.descr []) d.toList).length)
  | _, _, s, .nonterm n l _, e' => e' = .nonterm n l (spanOf s (n.toList.length + 2))
  | _, _, s, .cmd c a l _, e' => e' = .cmd c a l (spanOf s (cmdText c.toList).length)
  | lay, ctx, s, .seq cs _, e' =>
    ∃ cs', e' = .seq cs' (spanOf (skipParenL lay (decide (3 ≤ ctx)) s) (ppListL' (lay.sub 0) 3 cs).length) ∧
      PlacedListL' (lay.sub 0) 3 (skipParenL lay (decide (3 ≤ ctx)) s) cs cs'
  | lay, ctx, s, .alt cs _, e' =>
    ∃ cs', e' = .alt cs' (spanOf (skipParenL lay (decide (2 ≤ ctx)) s) (ppListL' (lay.sub 0) 2 cs).length) ∧
      PlacedListL' (lay.sub 0) 2 (skipParenL lay (decide (2 ≤ ctx)) s) cs cs'
  | lay, ctx, s, .fb cs _, e' =>
    ∃ cs', e' = .fb cs' (spanOf (skipParenL lay (decide (1 ≤ ctx)) s) (ppListL' (lay.sub 0) 1 cs).length) ∧
      PlacedListL' (lay.sub 0) 1 (skipParenL lay (decide (1 ≤ ctx)) s) cs cs'
  | lay, _, s, .opt c _, e' =>
    ∃ c', e' = .opt c'
        (spanOf s (1 + (lay.opn []).length + (ppL' (lay.sub 0) 0 c).length + (lay.cls []).length + 1)) ∧
      PlacedL' (lay.sub 0) 0 (s.adv (1 + (lay.opn []).length)) c c'
  | lay, ctx, s, .many1 c _, e' =>
    ∃ c', e' = .many1 c' (spanOf (skipParenL lay (ctx == 4) s)
        ((ppL' (lay.sub 0) 4 c).length + ((lay.dots []).length + 3))) ∧
      PlacedL' (lay.sub 0) 4 (skipParenL lay (ctx == 4) s) c c'
  | lay, ctx, s, .dd c d _, e' =>
    ∃ c', e' = .dd c' d (spanOf (skipParenL lay (decide (4 ≤ ctx)) s)
        (ppL' (lay.sub 0) 5 c ++ descrTextL (lay.descr []) d.toList).length) ∧
      PlacedL' (lay.sub 0) 5 (skipParenL lay (decide (4 ≤ ctx)) s) c c'
  | lay, ctx, s, .sub (.seq fs _) l _, e' =>
    ∃ fs', e' = .sub (.seq fs'
        (spanOf (skipParenL lay (ctx == 4 || ctx == 6 || (ctx == 5 && lastBare false fs)) s)
          (ppListL' (lay.sub 0) 6 fs).length)) l
        (spanOf (skipParenL lay (ctx == 4 || ctx == 6 || (ctx == 5 && lastBare false fs)) s)
          (ppListL' (lay.sub 0) 6 fs).length) ∧
      PlacedListL' (lay.sub 0) 6
        (skipParenL lay (ctx == 4 || ctx == 6 || (ctx == 5 && lastBare false fs)) s) fs fs'
  | _, _, _, .sub _ _ _, _ => False
def PlacedListL' : Layout' → Nat → PState → ExprL → ExprL → Prop
  | _, _, _, .nil, es' => es' = .nil
  | lay, ctx, s, .cons e es, es' =>
    ∃ e' r', es' = .cons e' r' ∧ PlacedL' (lay.sub 0) ctx s e e' ∧
      PlacedTailL' (lay.sub 1) ctx (s.adv (ppL' (lay.sub 0) ctx e).length) es r'
def PlacedTailL' : Layout' → Nat → PState → ExprL → ExprL → Prop
  | _, _, _, .nil, es' => es' = .nil
  | lay, ctx, s, .cons e es, es' =>
    ∃ e' r', es' = .cons e' r' ∧ PlacedL' (lay.sub 0) ctx (s.adv (sepL' lay ctx).length) e e' ∧
      PlacedTailL' (lay.sub 1) ctx ((s.adv (sepL' lay ctx).length).adv (ppL' (lay.sub 0) ctx e).length) es r'
end

theorem placedTailL'_cons_ne (lay : Layout') (ctx : Nat) (e : Expr) (es : ExprL) :
    ∀ s es', PlacedTailL' lay ctx s (.cons e es) es' → ∃ x xs, es' = .cons x xs := by
  intro s es' h
  simp only [PlacedTailL'] at h
  obtain ⟨e', r', rfl, _⟩ := h
  exact ⟨_, _, rfl⟩

theorem sepL'_six (lay : Layout') : sepL' lay 6 = [] := rfl

theorem placedTailL'_six_cons (lay : Layout') (s : PState) (f : Expr) (fs es' : ExprL) :
    PlacedTailL' lay 6 s (.cons f fs) es' ↔
    ∃ e' r', es' = .cons e' r' ∧ PlacedL' (lay.sub 0) 6 s f e' ∧
      PlacedTailL' (lay.sub 1) 6 (s.adv (ppL' (lay.sub 0) 6 f).length) fs r' := by
  simp only [PlacedTailL', sepL'_six, List.length_nil, adv_zero]

theorem flattenL_noSub : ∀ es : ExprL, NoSubL es → Check.flattenL es = es
  | .nil, _ => by simp [Check.flattenL]
  | .cons e es, h => by
    simp only [NoSubL] at h
    simp [Check.flattenL, flatten_noSub e h.1, flattenL_noSub es h.2]

theorem NFW_cons (f : Expr) (fs : ExprL) (h : NFW (.cons f fs)) :
    NF' f ∧ NoSub f ∧ (bare f = true → fs = .nil ∨ BracketHead (ppTail' 6 [] fs)) ∧ NFW fs := by
  simpa only [NFW] using h

theorem NFW_noSubL : ∀ fs : ExprL, NFW fs → NoSubL fs
  | .nil, _ => by simp [NoSubL]
  | .cons f fs, h => by
    simp only [NFW] at h
    simp only [NoSubL]
    exact ⟨h.2.1, NFW_noSubL fs h.2.2.2⟩

mutual
theorem placed_noSub : ∀ (e : Expr) (lay : Layout') (ctx : Nat) (s : PState) (e' : Expr),
    PlacedL' lay ctx s e e' → NoSub e → NoSub e'
  | .term t d l sp => by
    intro lay ctx s e' h _
    cases d <;> (simp only [PlacedL'] at h; subst h; simp [NoSub])
  | .nonterm n l sp | .cmd c a l sp => by
    intro lay ctx s e' h _
    simp only [PlacedL'] at h; subst h; simp [NoSub]
  | .seq cs sp | .alt cs sp | .fb cs sp => by
    intro lay ctx s e' h hn
    simp only [PlacedL'] at h
    obtain ⟨cs', rfl, h⟩ := h
    simp only [NoSub] at hn ⊢
    exact placedList_noSub cs _ _ _ _ h hn
  | .opt c sp | .many1 c sp | .dd c d sp => by
    intro lay ctx s e' h hn
    simp only [PlacedL'] at h
    obtain ⟨c', rfl, h⟩ := h
    simp only [NoSub] at hn ⊢
    exact placed_noSub c _ _ _ _ h hn
  | .sub c l sp => by intro lay ctx s e' _ hn; simp [NoSub] at hn
theorem placedList_noSub : ∀ (es : ExprL) (lay : Layout') (ctx : Nat) (s : PState) (es' : ExprL),
    PlacedListL' lay ctx s es es' → NoSubL es → NoSubL es'
  | .nil => by intro lay ctx s es' h _; simp only [PlacedListL'] at h; subst h; simp [NoSubL]
  | .cons e es => by
    intro lay ctx s es' h hn
    simp only [PlacedListL'] at h
    obtain ⟨e', r', rfl, h1, h2⟩ := h
    simp only [NoSubL] at hn ⊢
    exact ⟨placed_noSub e _ _ _ _ h1 hn.1, placedTail_noSub es _ _ _ _ h2 hn.2⟩
theorem placedTail_noSub : ∀ (es : ExprL) (lay : Layout') (ctx : Nat) (s : PState) (es' : ExprL),
    PlacedTailL' lay ctx s es es' → NoSubL es → NoSubL es'
  | .nil => by intro lay ctx s es' h _; simp only [PlacedTailL'] at h; subst h; simp [NoSubL]
  | .cons e es => by
    intro lay ctx s es' h hn
    simp only [PlacedTailL'] at h
    obtain ⟨e', r', rfl, h1, h2⟩ := h
    simp only [NoSubL] at hn ⊢
    exact ⟨placed_noSub e _ _ _ _ h1 hn.1, placedTail_noSub es _ _ _ _ h2 hn.2⟩
end

def LevelsRead (e : Expr) : Prop := ∀ lay : Layout', lay.Adm →
  AllLevels (needG e) (needG e + parenCost4 e) (needG e + parenCost5 e) (WOf e)
    (fun k => ppL' lay k e) (fun k s e' => PlacedL' lay k s e e')

structure TailsReadAt (lay : Layout') (es : ExprL) : Prop where
  s : LTs sequenceLoop SCont (needGL es) (ppTailL' lay 3 es) (fun s es' => PlacedTailL' lay 3 s es es')
  a : LTs alternativeLoop ACont (needGL es) (ppTailL' lay 2 es) (fun s es' => PlacedTailL' lay 2 s es es')
  f : LTs fallbackLoop FCont (needGL es) (ppTailL' lay 1 es) (fun s es' => PlacedTailL' lay 1 s es es')

def TailsRead (es : ExprL) : Prop := ∀ lay : Layout', lay.Adm → TailsReadAt lay es

def ItemsRead : ExprL → Prop
  | .nil => True
  | .cons e es => LevelsRead e ∧ TailsRead es ∧ ItemsRead es

theorem case_nil : TailsRead .nil ∧ ItemsRead .nil := by
  refine ⟨fun lay _ => ⟨?_, ?_, ?_⟩, trivial⟩
  · exact ((seqLoop_nil.mono (Nat.zero_le _)).text (by simp [ppTailL'])).imp
      (by intro s es' h; simpa [PlacedTailL'] using h)
  · exact ((altLoop_nil.mono (Nat.zero_le _)).text (by simp [ppTailL'])).imp
      (by intro s es' h; simpa [PlacedTailL'] using h)
  · exact ((fbLoop_nil.mono (Nat.zero_le _)).text (by simp [ppTailL'])).imp
      (by intro s es' h; simpa [PlacedTailL'] using h)

theorem case_cons (e : Expr) (es : ExprL) (hN : NFL' (.cons e es)) (he : LevelsRead e)
    (hes : TailsRead es ∧ ItemsRead es) : TailsRead (.cons e es) ∧ ItemsRead (.cons e es) := by
  simp only [NFL'] at hN
  refine ⟨fun lay adm => ?_, he, hes.1, hes.2⟩
  have hE := heads e hN.1 (lay.sub 0) (adm.sub 0)
  have hA := headsL es hN.2
  have he0 := he (lay.sub 0) (adm.sub 0)
  have hes1 := hes.1 (lay.sub 1) (adm.sub 1)
  refine ⟨?_, ?_, ?_⟩
  · have := seqLoop_cons (adm.sep []).1.1 (adm.sep []).2 (hE.hd 3).nb he0.p3 hes1.s
      (tailS_contL es hA _ (adm.sub 1))
    refine ((this.mono (m := needGL (.cons e es)) (by simp only [needGL]; omega)).text
      (by simp [ppTailL', sepL'])).imp ?_
    intro s es' h
    simp only [PlacedTailL']
    exact h
  · have := altLoop_cons (adm.barL []).1 (adm.barR []) (hE.hd 2).nb he0.p2 hes1.a
      (tailA_contL es _ (adm.sub 1))
    refine ((this.mono (m := needGL (.cons e es)) (by simp only [needGL]; omega)).text
      (by simp [ppTailL', sepL'])).imp ?_
    intro s es' h
    simp only [PlacedTailL']
    exact h
  · have := fbLoop_cons (adm.barL []).1 (adm.barR []) (hE.hd 1).nb he0.p1 hes1.f
      (tailF_contL es _ (adm.sub 1))
    refine ((this.mono (m := needGL (.cons e es)) (by simp only [needGL]; omega)).text
      (by simp [ppTailL', sepL'])).imp ?_
    intro s es' h
    simp only [PlacedTailL']
    exact h

theorem case_bare (t : String) (l : Nat) (sp : Span) (h : NF' (.term t none l sp)) :
    LevelsRead (.term t none l sp) := by
  simp only [NF'] at h
  obtain ⟨rfl, h1, h2, h3⟩ := h
  intro lay adm
  have hS := litStarts t.toList h1 h3
  have hB := lit_bare_reads t.toList h1 h2 h3
  rw [String.ofList_toList] at hB
  refine (asmBare (adm.opn []) (adm.cls []) hS.nb hB).conv (Nat.le_refl _) (Nat.le_refl _) (Nat.le_refl _)
    (fun k => ppL'_bare ..) (fun k s e' h => ?_)
  simp only [PlacedL']
  exact h

theorem case_descr (t d : String) (l : Nat) (sp : Span) (h : NF' (.term t (some d) l sp)) :
    LevelsRead (.term t (some d) l sp) := by
  simp only [NF'] at h
  obtain ⟨rfl, h1, h2, h3⟩ := h
  intro lay adm
  have hB := lit_descr_reads t.toList d.toList (lay.descr []) (adm.descr []) h1 h2 h3
  rw [String.ofList_toList, String.ofList_toList] at hB
  refine (asmBase hB).conv_le (Nat.le_refl _) (fun k => ppL'_descr ..)
    (fun k s e' h => ?_)
  simp only [PlacedL']
  exact h

theorem case_term (t : String) (d : Option String) (l : Nat) (sp : Span) (h : NF' (.term t d l sp)) :
    LevelsRead (.term t d l sp) := by
  cases d with
  | none => exact case_bare t l sp h
  | some d => exact case_descr t d l sp h

theorem case_nonterm (n : String) (l : Nat) (sp : Span) (h : NF' (.nonterm n l sp)) :
    LevelsRead (.nonterm n l sp) := by
  simp only [NF'] at h
  obtain ⟨rfl, h1, h2⟩ := h
  intro lay _
  have hB := nonterm_reads n.toList h1 h2
  rw [String.ofList_toList] at hB
  refine (asmBase hB).conv_le (Nat.le_refl _) (fun k => by simp [ppL'])
    (fun k s e' h => ?_)
  simp only [PlacedL']
  exact h

theorem case_cmd (c : String) (a : Bool) (l : Nat) (sp : Span) (h : NF' (.cmd c a l sp)) :
    LevelsRead (.cmd c a l sp) := by
  simp only [NF'] at h
  obtain ⟨rfl, rfl, h1, h2, h3⟩ := h
  intro lay _
  have hB := cmd_reads c.toList h1 h2 h3
  rw [String.ofList_toList] at hB
  refine (asmBase hB).conv_le (Nat.le_refl _) (fun k => by simp [ppL'])
    (fun k s e' h => ?_)
  simp only [PlacedL']
  exact h

theorem case_opt (c : Expr) (sp : Span) (ih : NF' c → LevelsRead c) (h : NF' (.opt c sp)) :
    LevelsRead (.opt c sp) := by
  simp only [NF'] at h
  have hc := ih h
  intro lay adm
  have hC := heads c h (lay.sub 0) (adm.sub 0)
  have hc0 := hc (lay.sub 0) (adm.sub 0)
  refine (asmBase (optional_reads (adm.opn []) (adm.cls []) (hC.hd 0).nb hc0.p0)).conv_le
    (by simp only [needG]; omega) (fun k => by simp [ppL']) (fun k s e' h => ?_)
  simp only [PlacedL']
  exact h

theorem case_many1 (c : Expr) (sp : Span) (ih : NF' c → LevelsRead c) (h : NF' (.many1 c sp)) :
    LevelsRead (.many1 c sp) := by
  simp only [NF'] at h
  have hc := ih h
  intro lay adm
  have hC := heads c h (lay.sub 0) (adm.sub 0)
  have hc0 := hc (lay.sub 0) (adm.sub 0)
  have hT : SameHead (ppL' (lay.sub 0) 4 c ++ lay.dots [] ++ ['.', '.', '.']) (pp' 4 c ++ ['.', '.', '.']) := by
    have := (hC.hd 4).append (lay.dots [] ++ ['.', '.', '.']) ['.', '.', '.']
    simpa using this
  refine (asmUnary (adm.opn []) (adm.cls []) hT.nb (lift_base_many1 (adm.dots []) hc0.p4)).conv_le
    (by simp only [needG]; omega) (fun k => by simp only [ppL', parenIfL', parenAt])
    (fun k s e' h => ?_)
  simp only [PlacedL']
  exact h

theorem case_dd (c : Expr) (d : String) (sp : Span) (ih : NF' c → LevelsRead c) (h : NF' (.dd c d sp)) :
    LevelsRead (.dd c d sp) := by
  simp only [NF'] at h
  have hc := ih h
  intro lay adm
  have hC := heads c h (lay.sub 0) (adm.sub 0)
  have hc0 := hc (lay.sub 0) (adm.sub 0)
  have hT : SameHead (ppL' (lay.sub 0) 5 c ++ descrTextL (lay.descr []) d.toList)
      (pp' 5 c ++ descrText d.toList) := (hC.hd 5).append _ _
  have hD := lift_word_dd d.toList (adm.descr []) hc0.p5
  rw [String.ofList_toList] at hD
  refine (asmD (adm.opn []) (adm.cls []) hT.nb hD).conv_le
    (by simp only [needG]; omega) (fun k => by simp only [ppL', parenIfL', parenAt])
    (fun k s e' h => ?_)
  simp only [PlacedL']
  exact h

theorem case_seq (cs : ExprL) (sp : Span) (ih : NFL' cs → TailsRead cs ∧ ItemsRead cs) (h : NF' (.seq cs sp)) :
    LevelsRead (.seq cs sp) := by
  simp only [NF'] at h
  obtain ⟨e1, e2, es, rfl⟩ := two_le_length h.1
  obtain ⟨_, h1, h2, _⟩ := ih h.2
  have hN := h.2
  simp only [NFL'] at hN
  have h3 := (headsL _ h.2).2
  intro lay adm
  have a0 := adm.sub 0
  have hE1 := heads e1 hN.1 ((lay.sub 0).sub 0) (a0.sub 0)
  have h1' := h1 ((lay.sub 0).sub 0) (a0.sub 0)
  have h2' := h2 ((lay.sub 0).sub 1) (a0.sub 1)
  have hT : SameHead (ppL' ((lay.sub 0).sub 0) 3 e1 ++ ppTailL' ((lay.sub 0).sub 1) 3 (.cons e2 es))
      (pp' 3 e1 ++ ppTail' 3 sepS (.cons e2 es)) := (hE1.hd 3).append _ _
  have hn := seq_natives h1'.p3 h2'.s (placedTailL'_cons_ne _ _ _ _) (tailS_contL _ h3 _ (a0.sub 1))
  refine (asm2 (adm.opn []) (adm.cls []) hT.nb hn).conv_le
    (by simp only [needG, needGL]; omega) (fun k => by simp only [ppL', ppListL', parenIfL', parenAt])
    (fun k s e' h => ?_)
  obtain ⟨c1, r', rfl, h1, h2⟩ := h
  simp only [PlacedL', PlacedListL', ppListL']
  exact ⟨_, rfl, c1, r', rfl, h1, h2⟩

theorem case_alt (cs : ExprL) (sp : Span) (ih : NFL' cs → TailsRead cs ∧ ItemsRead cs) (h : NF' (.alt cs sp)) :
    LevelsRead (.alt cs sp) := by
  simp only [NF'] at h
  obtain ⟨e1, e2, es, rfl⟩ := two_le_length h.1
  obtain ⟨_, h1, h2, _⟩ := ih h.2
  have hN := h.2
  simp only [NFL'] at hN
  intro lay adm
  have a0 := adm.sub 0
  have hE1 := heads e1 hN.1 ((lay.sub 0).sub 0) (a0.sub 0)
  have h1' := h1 ((lay.sub 0).sub 0) (a0.sub 0)
  have h2' := h2 ((lay.sub 0).sub 1) (a0.sub 1)
  have hT : SameHead (ppL' ((lay.sub 0).sub 0) 2 e1 ++ ppTailL' ((lay.sub 0).sub 1) 2 (.cons e2 es))
      (pp' 2 e1 ++ ppTail' 2 sepA (.cons e2 es)) := (hE1.hd 2).append _ _
  have hn := alt_natives h1'.p2 h2'.a (placedTailL'_cons_ne _ _ _ _) (tailA_contL _ _ (a0.sub 1))
  refine (asm1 (adm.opn []) (adm.cls []) hT.nb hn).conv_le
    (by simp only [needG, needGL]; omega) (fun k => by simp only [ppL', ppListL', parenIfL', parenAt])
    (fun k s e' h => ?_)
  obtain ⟨c1, r', rfl, h1, h2⟩ := h
  simp only [PlacedL', PlacedListL', ppListL']
  exact ⟨_, rfl, c1, r', rfl, h1, h2⟩

theorem case_fb (cs : ExprL) (sp : Span) (ih : NFL' cs → TailsRead cs ∧ ItemsRead cs) (h : NF' (.fb cs sp)) :
    LevelsRead (.fb cs sp) := by
  simp only [NF'] at h
  obtain ⟨e1, e2, es, rfl⟩ := two_le_length h.1
  obtain ⟨_, h1, h2, _⟩ := ih h.2
  have hN := h.2
  simp only [NFL'] at hN
  intro lay adm
  have a0 := adm.sub 0
  have hE1 := heads e1 hN.1 ((lay.sub 0).sub 0) (a0.sub 0)
  have h1' := h1 ((lay.sub 0).sub 0) (a0.sub 0)
  have h2' := h2 ((lay.sub 0).sub 1) (a0.sub 1)
  have hT : SameHead (ppL' ((lay.sub 0).sub 0) 1 e1 ++ ppTailL' ((lay.sub 0).sub 1) 1 (.cons e2 es))
      (pp' 1 e1 ++ ppTail' 1 sepF (.cons e2 es)) := (hE1.hd 1).append _ _
  have hn := fb_natives h1'.p1 h2'.f (placedTailL'_cons_ne _ _ _ _) (tailF_contL _ _ (a0.sub 1))
  refine (asm0 (adm.opn []) (adm.cls []) hT.nb hn).conv_le
    (by simp only [needG, needGL]; omega) (fun k => by simp only [ppL', ppListL', parenIfL', parenAt])
    (fun k s e' h => ?_)
  obtain ⟨c1, r', rfl, h1, h2⟩ := h
  simp only [PlacedL', PlacedListL', ppListL']
  exact ⟨_, rfl, c1, r', rfl, h1, h2⟩

def WordTailRead (b : Bool) (fs : ExprL) : Prop := ∀ lay : Layout', lay.Adm →
  LTs subwordLoop (AfterWord (lastBare b fs)) (needGL fs) (ppTailL' lay 6 fs)
    (fun s es' => PlacedTailL' lay 6 s fs es')

def FactorsRead : ExprL → Prop
  | .nil => True
  | .cons f fs => LevelsRead f ∧ WordTailRead (bare f) fs ∧ FactorsRead fs

theorem case_nilW : FactorsRead .nil ∧ ∀ b, WordTailRead b .nil := by
  refine ⟨trivial, fun b lay _ => ?_⟩
  have := wordLoop_nil (C := AfterWord (lastBare b .nil)) (fun r hr => hr.d.1)
  exact ((this.mono (Nat.zero_le _)).text (by simp [ppTailL'])).imp
    (by intro s es' h; simpa [PlacedTailL'] using h)

theorem case_consW (f : Expr) (fs : ExprL) (hf : LevelsRead f) (hfs : FactorsRead fs ∧ ∀ b, WordTailRead b fs)
    (hN : NFW (.cons f fs)) : FactorsRead (.cons f fs) ∧ ∀ b, WordTailRead b (.cons f fs) := by
  refine ⟨⟨hf, hfs.2 _, hfs.1⟩, fun b lay adm => ?_⟩
  have hN' := hN
  simp only [NFW] at hN'
  have hA := headsW fs hN'.2.2.2
  have := wordLoop_cons (hf (lay.sub 0) (adm.sub 0)).p6 (hfs.2 (bare f) (lay.sub 1) (adm.sub 1))
    (tailW_contL f fs hN hA _ (adm.sub 1))
  refine ((this.mono (m := needGL (.cons f fs)) (by simp only [needGL]; omega)).text
    (by simp [ppTailL', sepL'])).imp ?_
  intro s es' h
  rw [placedTailL'_six_cons]
  exact h

/-- the tree `word_natives` describes is laid out as a word: flattening the factors changes nothing -/
theorem placedL'_sub_of (lay : Layout') (ctx : Nat) (s : PState) (f1 : Expr) (r : ExprL) (sp1 sp : Span)
    (e' : Expr) (hn : NoSubL (.cons f1 r)) (b : Bool)
    (hb : b = (ctx == 4 || ctx == 6 || (ctx == 5 && lastBare false (.cons f1 r))))
    (h : ∃ c1 cs', e' = .sub (.seq (Check.flattenL (.cons c1 cs'))
          (spanOf (skipParenL lay b s)
            (ppL' ((lay.sub 0).sub 0) 6 f1 ++ ppTailL' ((lay.sub 0).sub 1) 6 r).length)) 0
          (spanOf (skipParenL lay b s)
            (ppL' ((lay.sub 0).sub 0) 6 f1 ++ ppTailL' ((lay.sub 0).sub 1) 6 r).length) ∧
        PlacedL' ((lay.sub 0).sub 0) 6 (skipParenL lay b s) f1 c1 ∧
        PlacedTailL' ((lay.sub 0).sub 1) 6
          ((skipParenL lay b s).adv (ppL' ((lay.sub 0).sub 0) 6 f1).length) r cs') :
    PlacedL' lay ctx s (.sub (.seq (.cons f1 r) sp1) 0 sp) e' := by
  subst hb
  obtain ⟨c1, cs', rfl, h1, h2⟩ := h
  simp only [NoSubL] at hn
  have hn' : NoSubL (.cons c1 cs') := by
    simp only [NoSubL]
    exact ⟨placed_noSub _ _ _ _ _ h1 hn.1, placedTail_noSub _ _ _ _ _ h2 hn.2⟩
  rw [flattenL_noSub _ hn']
  simp only [PlacedL', PlacedListL', ppListL']
  exact ⟨_, rfl, c1, cs', rfl, h1, h2⟩

theorem case_sub (fs : ExprL) (sp1 : Span) (l : Nat) (sp : Span)
    (ih : NFW fs → FactorsRead fs ∧ ∀ b, WordTailRead b fs) (h : NF' (.sub (.seq fs sp1) l sp)) :
    LevelsRead (.sub (.seq fs sp1) l sp) := by
  simp only [NF'] at h
  obtain ⟨rfl, hlen, hN⟩ := h
  obtain ⟨f1, f2, fs', rfl⟩ := two_le_length hlen
  obtain ⟨⟨h1, h2, _⟩, _⟩ := ih hN
  have hN' := NFW_cons _ _ hN
  have h3 := headsW _ hN'.2.2.2
  have hNS := NFW_noSubL _ hN
  intro lay adm
  have a0 := adm.sub 0
  have hE1 := heads f1 hN'.1 ((lay.sub 0).sub 0) (a0.sub 0)
  have h1' := h1 ((lay.sub 0).sub 0) (a0.sub 0)
  have h2' := h2 ((lay.sub 0).sub 1) (a0.sub 1)
  have hT : SameHead (ppL' ((lay.sub 0).sub 0) 6 f1 ++ ppTailL' ((lay.sub 0).sub 1) 6 (.cons f2 fs'))
      (pp' 6 f1 ++ ppTail' 6 [] (.cons f2 fs')) := (hE1.hd 6).append _ _
  have hn := word_natives h1'.p6 h2' (placedTailL'_cons_ne _ _ _ _) (tailW_contL f1 _ hN h3 _ (a0.sub 1))
  have hlb : lastBare (bare f1) (.cons f2 fs') = lastBare false (.cons f1 (.cons f2 fs')) := by
    simp only [lastBare]
  refine (asmW _ (adm.opn []) (adm.cls []) hT.nb hn).conv_le (by simp only [needG, needGL]; omega)
    (fun k => by rw [ppL'_sub, ppListL', hlb]; rfl) (fun k s e' h => ?_)
  exact placedL'_sub_of lay k s f1 _ sp1 sp e' hNS _ (by rw [hlb]) h

theorem all_levels (e : Expr) : NF' e → LevelsRead e := by
  suffices h : (NF' e → LevelsRead e) ∧ ∀ fs sp, e = .seq fs sp → NFW fs → FactorsRead fs ∧ ∀ b, WordTailRead b fs from h.1
  refine Expr.rec
    (motive_1 := fun e => (NF' e → LevelsRead e) ∧ ∀ fs sp, e = .seq fs sp → NFW fs → FactorsRead fs ∧ ∀ b, WordTailRead b fs)
    (motive_2 := fun es => (NFL' es → TailsRead es ∧ ItemsRead es) ∧ (NFW es → FactorsRead es ∧ ∀ b, WordTailRead b es))
    ?_ ?_ ?_ ?_ ?_ ?_ ?_ ?_ ?_ ?_ ?_ ?_ e
  · intro t d l sp; exact ⟨case_term t d l sp, fun _ _ e => by cases e⟩
  · intro n l sp; exact ⟨case_nonterm n l sp, fun _ _ e => by cases e⟩
  · intro c a l sp; exact ⟨case_cmd c a l sp, fun _ _ e => by cases e⟩
  · intro cs sp ih
    exact ⟨case_seq cs sp ih.1, fun fs sp' e => by cases e; exact ih.2⟩
  · intro cs sp ih; exact ⟨case_alt cs sp ih.1, fun _ _ e => by cases e⟩
  · intro cs sp ih; exact ⟨case_fb cs sp ih.1, fun _ _ e => by cases e⟩
  · intro c sp ih; exact ⟨case_opt c sp ih.1, fun _ _ e => by cases e⟩
  · intro c sp ih; exact ⟨case_many1 c sp ih.1, fun _ _ e => by cases e⟩
  · intro c d sp ih; exact ⟨case_dd c d sp ih.1, fun _ _ e => by cases e⟩
  · intro c l sp ih
    refine ⟨fun h => ?_, fun _ _ e => by cases e⟩
    cases c with
    | seq fs sp1 => exact case_sub fs sp1 l sp (ih.2 fs sp1 rfl) h
    | _ => simp [NF'] at h
  · exact ⟨fun _ => case_nil, fun _ => case_nilW⟩
  · intro e es ihe ihes
    refine ⟨fun h => ?_, fun h => ?_⟩
    · have h' := h
      simp only [NFL'] at h'
      exact case_cons e es h (ihe.1 h'.1) (ihes.1 h'.2)
    · have h' := h
      simp only [NFW] at h'
      exact case_consW e es (ihe.1 h'.1) (ihes.2 h'.2.2.2) h

end Full

/-- the general statement, with the fuel the descent uses (`needG`) -/
theorem fallback_spans_needG (e : Expr) (hnf : NF' e) (lay : Layout') (adm : lay.Adm)
    (rest : List Char) (hrest : Follows rest) (s : PState) (hs : s.rest = ppL' lay 0 e ++ rest)
    (fuel : Nat) (hfuel : needG e ≤ fuel) :
    ∃ e', fallback fuel s = some (s.adv (ppL' lay 0 e).length, e') ∧ PlacedL' lay 0 s e e' :=
  (all_levels e hnf lay adm).p0 rest hrest s hs fuel hfuel

/-- **Every span points at its construct, on the larger fragment, under every admissible layout**: a tree of
`NF'` printed with any admissible layout and followed by the end of the input, `;`, `)`, `]` (possibly after
blanks and comments) is parsed by `fallback_expr` into a tree every node of which carries the span of its own
text (`PlacedL'`; the head of the file says which text that is for each kind of node), and exactly the printed
characters are consumed. -/
theorem fallback_spans_full_layout (e : Expr) (hnf : NF' e) (lay : Layout') (adm : lay.Adm)
    (rest : List Char) (hrest : Follows rest) (s : PState) (hs : s.rest = ppL' lay 0 e ++ rest)
    (fuel : Nat) (hfuel : needF e ≤ fuel) :
    ∃ e', fallback fuel s = some (s.adv (ppL' lay 0 e).length, e') ∧ PlacedL' lay 0 s e e' :=
  fallback_spans_needG e hnf lay adm rest hrest s hs fuel (Nat.le_trans (needG_le_needF e) hfuel)

theorem placedL'_erase_all (e : Expr) :
    (∀ lay ctx s e', PlacedL' lay ctx s e e' → e'.eraseSpans = e.eraseSpans) ∧
    ∀ fs sp, e = .seq fs sp → ∀ lay ctx s fs', PlacedListL' lay ctx s fs fs' → fs'.eraseSpans = fs.eraseSpans := by
  refine Expr.rec
    (motive_1 := fun e => (∀ lay ctx s e', PlacedL' lay ctx s e e' → e'.eraseSpans = e.eraseSpans) ∧
      ∀ fs sp, e = .seq fs sp → ∀ lay ctx s fs', PlacedListL' lay ctx s fs fs' →
        fs'.eraseSpans = fs.eraseSpans)
    (motive_2 := fun es =>
      (∀ lay ctx s es', PlacedListL' lay ctx s es es' → es'.eraseSpans = es.eraseSpans) ∧
      (∀ lay ctx s es', PlacedTailL' lay ctx s es es' → es'.eraseSpans = es.eraseSpans))
    ?_ ?_ ?_ ?_ ?_ ?_ ?_ ?_ ?_ ?_ ?_ ?_ e
  · intro t d l sp
    refine ⟨fun lay ctx s e' h => ?_, fun _ _ e => by cases e⟩
    cases d with
    | none => simp only [PlacedL'] at h; subst h; simp [Expr.eraseSpans]
    | some d => simp only [PlacedL'] at h; subst h; simp [Expr.eraseSpans]
  · intro n l sp
    refine ⟨fun lay ctx s e' h => ?_, fun _ _ e => by cases e⟩
    simp only [PlacedL'] at h; subst h; simp [Expr.eraseSpans]
  · intro c a l sp
    refine ⟨fun lay ctx s e' h => ?_, fun _ _ e => by cases e⟩
    simp only [PlacedL'] at h; subst h; simp [Expr.eraseSpans]
  · intro cs sp ih
    refine ⟨fun lay ctx s e' h => ?_, fun fs sp' e => by cases e; exact ih.1⟩
    simp only [PlacedL'] at h
    obtain ⟨cs', rfl, h⟩ := h
    simp only [Expr.eraseSpans]; rw [ih.1 _ _ _ _ h]
  · intro cs sp ih
    refine ⟨fun lay ctx s e' h => ?_, fun _ _ e => by cases e⟩
    simp only [PlacedL'] at h
    obtain ⟨cs', rfl, h⟩ := h
    simp only [Expr.eraseSpans]; rw [ih.1 _ _ _ _ h]
  · intro cs sp ih
    refine ⟨fun lay ctx s e' h => ?_, fun _ _ e => by cases e⟩
    simp only [PlacedL'] at h
    obtain ⟨cs', rfl, h⟩ := h
    simp only [Expr.eraseSpans]; rw [ih.1 _ _ _ _ h]
  · intro c sp ih
    refine ⟨fun lay ctx s e' h => ?_, fun _ _ e => by cases e⟩
    simp only [PlacedL'] at h
    obtain ⟨c', rfl, h⟩ := h
    simp only [Expr.eraseSpans]; rw [ih.1 _ _ _ _ h]
  · intro c sp ih
    refine ⟨fun lay ctx s e' h => ?_, fun _ _ e => by cases e⟩
    simp only [PlacedL'] at h
    obtain ⟨c', rfl, h⟩ := h
    simp only [Expr.eraseSpans]; rw [ih.1 _ _ _ _ h]
  · intro c d sp ih
    refine ⟨fun lay ctx s e' h => ?_, fun _ _ e => by cases e⟩
    simp only [PlacedL'] at h
    obtain ⟨c', rfl, h⟩ := h
    simp only [Expr.eraseSpans]; rw [ih.1 _ _ _ _ h]
  · intro c l sp ih
    refine ⟨fun lay ctx s e' h => ?_, fun _ _ e => by cases e⟩
    cases c with
    | seq fs sp1 =>
      simp only [PlacedL'] at h
      obtain ⟨fs', rfl, h⟩ := h
      simp only [Expr.eraseSpans]; rw [ih.2 fs sp1 rfl _ _ _ _ h]
    | _ => simp [PlacedL'] at h
  · constructor
    · intro lay ctx s es' h; simp only [PlacedListL'] at h; subst h; rfl
    · intro lay ctx s es' h; simp only [PlacedTailL'] at h; subst h; rfl
  · intro e es ihe ihes
    constructor
    · intro lay ctx s es' h
      simp only [PlacedListL'] at h
      obtain ⟨e', r', rfl, h1, h2⟩ := h
      simp only [ExprL.eraseSpans]; rw [ihe.1 _ _ _ _ h1, ihes.2 _ _ _ _ h2]
    · intro lay ctx s es' h
      simp only [PlacedTailL'] at h
      obtain ⟨e', r', rfl, h1, h2⟩ := h
      simp only [ExprL.eraseSpans]; rw [ihe.1 _ _ _ _ h1, ihes.2 _ _ _ _ h2]

theorem Full.PlacedL'.eraseSpans {lay : Layout'} {ctx : Nat} {s : PState} {e e' : Expr}
    (h : PlacedL' lay ctx s e e') : e'.eraseSpans = e.eraseSpans := (placedL'_erase_all e).1 lay ctx s e' h

/-- **Layout does not matter on the larger fragment (1)**: a tree of `NF'` printed with any admissible
layout — blanks and comments wherever the syntax allows them, the place before a description included —
followed by the end of the input, `;`, `)`, `]` (possibly after blanks and comments), is parsed by
`fallback_expr` as the same tree up to spans, and exactly the printed characters are consumed. -/
theorem fallback_roundtrip_full_layout (e : Expr) (hnf : NF' e) (lay : Layout') (adm : lay.Adm)
    (rest : List Char) (hrest : Follows rest) (s : PState) (hs : s.rest = ppL' lay 0 e ++ rest)
    (fuel : Nat) (hfuel : needF e ≤ fuel) :
    ∃ e', fallback fuel s = some (s.adv (ppL' lay 0 e).length, e') ∧ e'.eraseSpans = e.eraseSpans := by
  obtain ⟨e', h1, h2⟩ := fallback_spans_full_layout e hnf lay adm rest hrest s hs fuel hfuel
  exact ⟨e', h1, h2.eraseSpans⟩

theorem fallback_roundtrip_full_layout_of_spans (e : Expr) (hnf : NF' e) (lay : Layout') (adm : lay.Adm)
    (rest : List Char) (hrest : Follows rest) (s : PState) (hs : s.rest = ppL' lay 0 e ++ rest)
    (fuel : Nat) (hfuel : needF e ≤ fuel) :
    ∃ e', fallback fuel s = some (s.adv (ppL' lay 0 e).length, e') ∧ e'.eraseSpans = e.eraseSpans :=
  fallback_roundtrip_full_layout e hnf lay adm rest hrest s hs fuel hfuel

theorem fallback_roundtrip_full_layout_fuelNeeded (e : Expr) (hnf : NF' e) (lay : Layout') (adm : lay.Adm)
    (rest : List Char) (hrest : Follows rest) (s : PState) (hs : s.rest = ppL' lay 0 e ++ rest)
    (fuel : Nat) (hfuel : fuelNeeded e ≤ fuel) :
    ∃ e', fallback fuel s = some (s.adv (ppL' lay 0 e).length, e') ∧ e'.eraseSpans = e.eraseSpans :=
  fallback_roundtrip_full_layout e hnf lay adm rest hrest s hs fuel
    (Nat.le_trans (needF_le_fuelNeeded e) hfuel)

theorem agree_of_roundtrip {α β : Type} {p₁ p₂ : α → Prop} {f : α → β} {c : β}
    (h₁ : ∃ x, p₁ x ∧ f x = c) (h₂ : ∃ y, p₂ y ∧ f y = c) : ∃ x y, p₁ x ∧ p₂ y ∧ f x = f y := by
  obtain ⟨x, a, e⟩ := h₁
  obtain ⟨y, b, e'⟩ := h₂
  exact ⟨x, y, a, b, e.trans e'.symm⟩

/-- **Layout does not matter on the larger fragment (2)**: two admissible layouts of one tree are parsed as
trees that differ in their spans only. -/
theorem layout_irrelevant_full (e : Expr) (hnf : NF' e) (lay₁ lay₂ : Layout') (adm₁ : lay₁.Adm)
    (adm₂ : lay₂.Adm) (rest₁ rest₂ : List Char) (hrest₁ : Follows rest₁) (hrest₂ : Follows rest₂)
    (s₁ s₂ : PState) (hs₁ : s₁.rest = ppL' lay₁ 0 e ++ rest₁) (hs₂ : s₂.rest = ppL' lay₂ 0 e ++ rest₂)
    (fuel₁ fuel₂ : Nat) (hfuel₁ : needF e ≤ fuel₁) (hfuel₂ : needF e ≤ fuel₂) :
    ∃ e₁ e₂, fallback fuel₁ s₁ = some (s₁.adv (ppL' lay₁ 0 e).length, e₁) ∧
      fallback fuel₂ s₂ = some (s₂.adv (ppL' lay₂ 0 e).length, e₂) ∧ e₁.eraseSpans = e₂.eraseSpans :=
  agree_of_roundtrip (fallback_roundtrip_full_layout e hnf lay₁ adm₁ rest₁ hrest₁ s₁ hs₁ fuel₁ hfuel₁)
    (fallback_roundtrip_full_layout e hnf lay₂ adm₂ rest₂ hrest₂ s₂ hs₂ fuel₂ hfuel₂)

/-- the plain printer `pp'` is the layout `plainLayout'` -/
theorem fallback_roundtrip_full_of_layout (e : Expr) (hnf : NF' e) (rest : List Char) (hrest : Follows rest)
    (s : PState) (hs : s.rest = pp' 0 e ++ rest) (fuel : Nat) (hfuel : needF e ≤ fuel) :
    ∃ e', fallback fuel s = some (s.adv (pp' 0 e).length, e') ∧ e'.eraseSpans = e.eraseSpans := by
  rw [← ppL'_plain] at hs ⊢
  exact fallback_roundtrip_full_layout e hnf plainLayout' plainLayout'_adm rest hrest s hs fuel hfuel

/-- **The operator ladder reads back what the printer writes, on the larger fragment** -/
theorem fallback_roundtrip_full (e : Expr) (hnf : NF' e) (rest : List Char) (hrest : Follows rest) (s : PState)
    (hs : s.rest = pp' 0 e ++ rest) (fuel : Nat) (hfuel : fuelNeeded e ≤ fuel) :
    ∃ e', fallback fuel s = some (s.adv (pp' 0 e).length, e') ∧ e'.eraseSpans = e.eraseSpans :=
  fallback_roundtrip_full_of_layout e hnf rest hrest s hs fuel (Nat.le_trans (needF_le_fuelNeeded e) hfuel)

theorem layout_vs_plain_full (e : Expr) (hnf : NF' e) (lay : Layout') (adm : lay.Adm)
    (rest₁ rest₂ : List Char) (hrest₁ : Follows rest₁) (hrest₂ : Follows rest₂) (s₁ s₂ : PState)
    (hs₁ : s₁.rest = ppL' lay 0 e ++ rest₁) (hs₂ : s₂.rest = pp' 0 e ++ rest₂)
    (fuel₁ fuel₂ : Nat) (hfuel₁ : needF e ≤ fuel₁) (hfuel₂ : needF e ≤ fuel₂) :
    ∃ e₁ e₂, fallback fuel₁ s₁ = some (s₁.adv (ppL' lay 0 e).length, e₁) ∧
      fallback fuel₂ s₂ = some (s₂.adv (pp' 0 e).length, e₂) ∧ e₁.eraseSpans = e₂.eraseSpans := by
  rw [← ppL'_plain] at hs₂ ⊢
  exact layout_irrelevant_full e hnf lay plainLayout' adm plainLayout'_adm rest₁ rest₂ hrest₁ hrest₂ s₁ s₂
    hs₁ hs₂ fuel₁ fuel₂ hfuel₁ hfuel₂

/-- a layout of the smaller fragment is a layout of the larger one (`Layout'.ofLayout`; no description is
printed, so any strings will do for them) -/
theorem fallback_roundtrip_needG (e : Expr) (hnf : NF e) (lay : Layout) (adm : lay.Adm)
    (rest : List Char) (hrest : Follows rest) (s : PState) (hs : s.rest = ppL lay 0 e ++ rest)
    (fuel : Nat) (hfuel : needG e ≤ fuel) :
    ∃ e', fallback fuel s = some (s.adv (ppL lay 0 e).length, e') ∧ e'.eraseSpans = e.eraseSpans := by
  have h := ppL'_ofLayout e hnf lay (fun _ => []) 0 (by omega)
  rw [← h] at hs ⊢
  obtain ⟨e', h1, h2⟩ := fallback_spans_needG e (NF_sub e hnf) _
    (Layout'.ofLayout_adm adm (fun _ => IsLayoutW.nil)) rest hrest s hs fuel hfuel
  exact ⟨e', h1, h2.eraseSpans⟩

/-- the smaller fragment under the sharper fuel bound `need e`: the one `Grammar::parse` can afford -/
theorem fallback_roundtrip_need (e : Expr) (hnf : NF e) (lay : Layout) (adm : lay.Adm)
    (rest : List Char) (hrest : Follows rest) (s : PState) (hs : s.rest = ppL lay 0 e ++ rest)
    (fuel : Nat) (hfuel : need e ≤ fuel) :
    ∃ e', fallback fuel s = some (s.adv (ppL lay 0 e).length, e') ∧ e'.eraseSpans = e.eraseSpans :=
  fallback_roundtrip_needG e hnf lay adm rest hrest s hs fuel (Nat.le_trans (needG_le_need e hnf) hfuel)

theorem fallback_roundtrip_layout_from_full (e : Expr) (hnf : NF e) (lay : Layout) (adm : lay.Adm)
    (rest : List Char) (hrest : Follows rest) (s : PState) (hs : s.rest = ppL lay 0 e ++ rest)
    (fuel : Nat) (hfuel : needF e ≤ fuel) :
    ∃ e', fallback fuel s = some (s.adv (ppL lay 0 e).length, e') ∧ e'.eraseSpans = e.eraseSpans :=
  fallback_roundtrip_needG e hnf lay adm rest hrest s hs fuel (Nat.le_trans (needG_le_needF e) hfuel)

/-- **Layout does not matter (1)**: a normal-form tree printed with any admissible layout — blanks and
comments wherever the syntax allows them — is parsed by `fallback_expr` as the same tree up to spans, and
exactly the printed characters are consumed. -/
theorem fallback_roundtrip_layout (e : Expr) (hnf : NF e) (lay : Layout) (adm : lay.Adm)
    (rest : List Char) (hrest : Follows rest) (s : PState) (hs : s.rest = ppL lay 0 e ++ rest)
    (fuel : Nat) (hfuel : fuelNeeded e ≤ fuel) :
    ∃ e', fallback fuel s = some (s.adv (ppL lay 0 e).length, e') ∧ e'.eraseSpans = e.eraseSpans :=
  fallback_roundtrip_layout_from_full e hnf lay adm rest hrest s hs fuel
    (Nat.le_trans (needF_le_fuelNeeded e) hfuel)

/-- **Layout does not matter (2)**: two admissible layouts of one tree are parsed as trees that differ
in their spans only. -/
theorem layout_irrelevant (e : Expr) (hnf : NF e) (lay₁ lay₂ : Layout) (adm₁ : lay₁.Adm) (adm₂ : lay₂.Adm)
    (rest₁ rest₂ : List Char) (hrest₁ : Follows rest₁) (hrest₂ : Follows rest₂) (s₁ s₂ : PState)
    (hs₁ : s₁.rest = ppL lay₁ 0 e ++ rest₁) (hs₂ : s₂.rest = ppL lay₂ 0 e ++ rest₂)
    (fuel₁ fuel₂ : Nat) (hfuel₁ : fuelNeeded e ≤ fuel₁) (hfuel₂ : fuelNeeded e ≤ fuel₂) :
    ∃ e₁ e₂, fallback fuel₁ s₁ = some (s₁.adv (ppL lay₁ 0 e).length, e₁) ∧
      fallback fuel₂ s₂ = some (s₂.adv (ppL lay₂ 0 e).length, e₂) ∧ e₁.eraseSpans = e₂.eraseSpans :=
  agree_of_roundtrip (fallback_roundtrip_layout e hnf lay₁ adm₁ rest₁ hrest₁ s₁ hs₁ fuel₁ hfuel₁)
    (fallback_roundtrip_layout e hnf lay₂ adm₂ rest₂ hrest₂ s₂ hs₂ fuel₂ hfuel₂)

/-- **The operator ladder reads back what the printer writes**: a normal-form tree printed with the
fewest parentheses is parsed by `fallback_expr` as the same tree up to spans, and exactly the printed
characters are consumed. -/
theorem fallback_roundtrip (e : Expr) (hnf : NF e) (rest : List Char) (hrest : Follows rest) (s : PState)
    (hs : s.rest = pp 0 e ++ rest) (fuel : Nat) (hfuel : fuelNeeded e ≤ fuel) :
    ∃ e', fallback fuel s = some (s.adv (pp 0 e).length, e') ∧ e'.eraseSpans = e.eraseSpans := by
  rw [pp_eq_ppL] at hs ⊢
  exact fallback_roundtrip_layout e hnf plainLayout plainLayout_adm rest hrest s hs fuel hfuel

theorem fallback_roundtrip_of_layout (e : Expr) (hnf : NF e) (rest : List Char) (hrest : Follows rest)
    (s : PState) (hs : s.rest = pp 0 e ++ rest) (fuel : Nat) (hfuel : fuelNeeded e ≤ fuel) :
    ∃ e', fallback fuel s = some (s.adv (pp 0 e).length, e') ∧ e'.eraseSpans = e.eraseSpans :=
  fallback_roundtrip e hnf rest hrest s hs fuel hfuel

theorem fallback_roundtrip_from_full (e : Expr) (hnf : NF e) (rest : List Char) (hrest : Follows rest)
    (s : PState) (hs : s.rest = pp 0 e ++ rest) (fuel : Nat) (hfuel : fuelNeeded e ≤ fuel) :
    ∃ e', fallback fuel s = some (s.adv (pp 0 e).length, e') ∧ e'.eraseSpans = e.eraseSpans :=
  fallback_roundtrip e hnf rest hrest s hs fuel hfuel

theorem fallback_roundtrip_of_spans (e : Expr) (hnf : NF e) (rest : List Char) (hrest : Follows rest)
    (s : PState) (hs : s.rest = pp 0 e ++ rest) (fuel : Nat) (hfuel : fuelNeeded e ≤ fuel) :
    ∃ e', fallback fuel s = some (s.adv (pp 0 e).length, e') ∧ e'.eraseSpans = e.eraseSpans :=
  fallback_roundtrip e hnf rest hrest s hs fuel hfuel

theorem layout_vs_plain (e : Expr) (hnf : NF e) (lay : Layout) (adm : lay.Adm)
    (rest₁ rest₂ : List Char) (hrest₁ : Follows rest₁) (hrest₂ : Follows rest₂) (s₁ s₂ : PState)
    (hs₁ : s₁.rest = ppL lay 0 e ++ rest₁) (hs₂ : s₂.rest = pp 0 e ++ rest₂)
    (fuel₁ fuel₂ : Nat) (hfuel₁ : fuelNeeded e ≤ fuel₁) (hfuel₂ : fuelNeeded e ≤ fuel₂) :
    ∃ e₁ e₂, fallback fuel₁ s₁ = some (s₁.adv (ppL lay 0 e).length, e₁) ∧
      fallback fuel₂ s₂ = some (s₂.adv (pp 0 e).length, e₂) ∧ e₁.eraseSpans = e₂.eraseSpans := by
  rw [pp_eq_ppL] at hs₂ ⊢
  exact layout_irrelevant e hnf lay plainLayout adm plainLayout_adm rest₁ rest₂ hrest₁ hrest₂ s₁ s₂ hs₁ hs₂
    fuel₁ fuel₂ hfuel₁ hfuel₂

/-- at the top (context 0 never prints a parenthesis) the span of the root is that of the whole printed text -/
theorem Full.PlacedL'.span_top {lay : Layout'} {s : PState} {e e' : Expr} (h : PlacedL' lay 0 s e e') :
    e'.span = spanOf s (ppL' lay 0 e).length := by
  cases e with
  | term t d l sp =>
    cases d with
    | none =>
      simp only [PlacedL'] at h; subst h
      rw [ppL'_bare]; simp [Expr.span, skipParenL, parenIfL']
    | some d => simp only [PlacedL'] at h; subst h; rw [ppL'_descr]; simp [Expr.span]
  | nonterm n l sp => simp only [PlacedL'] at h; subst h; simp [Expr.span, ppL']
  | cmd c a l sp => simp only [PlacedL'] at h; subst h; simp [Expr.span, ppL']
  | seq cs sp =>
    simp only [PlacedL'] at h; obtain ⟨cs', rfl, _⟩ := h
    simp [Expr.span, ppL', skipParenL, parenIfL']
  | alt cs sp =>
    simp only [PlacedL'] at h; obtain ⟨cs', rfl, _⟩ := h
    simp [Expr.span, ppL', skipParenL, parenIfL']
  | fb cs sp =>
    simp only [PlacedL'] at h; obtain ⟨cs', rfl, _⟩ := h
    simp [Expr.span, ppL', skipParenL, parenIfL']
  | opt c sp =>
    simp only [PlacedL'] at h; obtain ⟨c', rfl, _⟩ := h
    simp only [Expr.span, ppL']
    congr 1
    simp; omega
  | many1 c sp =>
    simp only [PlacedL'] at h; obtain ⟨c', rfl, _⟩ := h
    simp only [Expr.span, ppL']
    simp [skipParenL, parenIfL']
  | dd c d sp =>
    simp only [PlacedL'] at h; obtain ⟨c', rfl, _⟩ := h
    simp [Expr.span, ppL', skipParenL, parenIfL']
  | sub c l sp =>
    cases c with
    | seq fs sp1 =>
      simp only [PlacedL'] at h; obtain ⟨fs', rfl, _⟩ := h
      rw [ppL'_sub]
      simp [Expr.span, skipParenL, parenIfL']
    | _ => simp [PlacedL'] at h

theorem Full.PlacedL'.span_top_start {lay : Layout'} {s : PState} {e e' : Expr} (h : PlacedL' lay 0 s e e') :
    e'.span.line = s.line ∧ e'.span.cs = s.col := by
  rw [h.span_top]; exact ⟨rfl, rfl⟩

mutual
/-- the spans of all nodes, in preorder -/
def spansOf : Expr → List Span
  | .term _ _ _ sp => [sp]
  | .nonterm _ _ sp => [sp]
  | .cmd _ _ _ sp => [sp]
  | .seq cs sp => sp :: spansOfL cs
  | .alt cs sp => sp :: spansOfL cs
  | .fb cs sp => sp :: spansOfL cs
  | .opt c sp => sp :: spansOf c
  | .many1 c sp => sp :: spansOf c
  | .dd c _ sp => sp :: spansOf c
  | .sub c _ sp => sp :: spansOf c
def spansOfL : ExprL → List Span
  | .nil => []
  | .cons e es => spansOf e ++ spansOfL es
end

def spanAt (s : PState) (ab : Nat × Nat) : Span := fromRange (s.adv ab.1) (s.adv ab.2)

theorem spanAt_start (s : PState) (ab : Nat × Nat) :
    (spanAt s ab).line = (s.adv ab.1).line ∧ (spanAt s ab).cs = (s.adv ab.1).col := ⟨rfl, rfl⟩

def slice (X : List Char) (ab : Nat × Nat) : List Char := (X.drop ab.1).take (ab.2 - ab.1)

/-! A text `T` stands in `X` at offset `k`: `T <+: X.drop k`. -/

theorem prefix_of_eq {X pre T post : List Char} (hX : X = pre ++ T ++ post) : T <+: X.drop pre.length :=
  ⟨post, by rw [hX, List.append_assoc, List.drop_left]⟩

theorem slice_prefix {X T : List Char} {k n : Nat} (h : T <+: X.drop k) (hn : n = T.length) :
    slice X (k, k + n) = T := by
  obtain ⟨t, ht⟩ := h
  rw [slice, ← ht, hn, Nat.add_sub_cancel_left, List.take_left]

theorem prefix_drop {X A T : List Char} {k n : Nat} (h : A ++ T <+: X.drop k) (hn : A.length = n) :
    T <+: X.drop (k + n) := by
  obtain ⟨t, ht⟩ := h
  exact ⟨t, by rw [← hn, ← List.drop_drop, ← ht, List.append_assoc, List.drop_left]⟩

theorem prefix_mid {X A T B : List Char} {k n : Nat} (h : A ++ T ++ B <+: X.drop k) (hn : A.length = n) :
    T <+: X.drop (k + n) :=
  prefix_drop ((List.prefix_append _ B).trans h) hn

namespace Full

def openLen (lay : Layout') (b : Bool) : Nat := if b then 1 + (lay.opn []).length else 0

theorem skipParenL_adv (lay : Layout') (b : Bool) (s : PState) (k : Nat) :
    skipParenL lay b (s.adv k) = s.adv (k + openLen lay b) := by
  cases b <;> simp [skipParenL, openLen, adv_add']

mutual
/-- for every node of `e`, in preorder (`spansOf`; a word contributes its `.sub`
node and the `.seq` node under it): the offsets of the first character of the node's own text and of the
character after its last one, in a text in which `ppL' lay ctx e` begins at offset `k` -/
def offsL' : Layout' → Nat → Nat → Expr → List (Nat × Nat)
  | lay, ctx, k, .term t none _ _ =>
    [(k + openLen lay (ctx == 5 || (ctx == 4 && endsDot t.toList)),
      k + openLen lay (ctx == 5 || (ctx == 4 && endsDot t.toList)) + (escT 0 t.toList).length)]
  | lay, _, k, .term t (some d) _ _ =>
    [(k, k + (escT 0 t.toList ++ descrTextL (lay.descr []) d.toList).length)]
  | _, _, k, .nonterm n _ _ => [(k, k + (n.toList.length + 2))]
  | _, _, k, .cmd c _ _ _ => [(k, k + (cmdText c.toList).length)]
  | lay, ctx, k, .seq cs _ =>
    (k + openLen lay (decide (3 ≤ ctx)),
      k + openLen lay (decide (3 ≤ ctx)) + (ppListL' (lay.sub 0) 3 cs).length) ::
      offsListL' (lay.sub 0) 3 (k + openLen lay (decide (3 ≤ ctx))) cs
  | lay, ctx, k, .alt cs _ =>
    (k + openLen lay (decide (2 ≤ ctx)),
      k + openLen lay (decide (2 ≤ ctx)) + (ppListL' (lay.sub 0) 2 cs).length) ::
      offsListL' (lay.sub 0) 2 (k + openLen lay (decide (2 ≤ ctx))) cs
  | lay, ctx, k, .fb cs _ =>
    (k + openLen lay (decide (1 ≤ ctx)),
      k + openLen lay (decide (1 ≤ ctx)) + (ppListL' (lay.sub 0) 1 cs).length) ::
      offsListL' (lay.sub 0) 1 (k + openLen lay (decide (1 ≤ ctx))) cs
  | lay, _, k, .opt c _ =>
    (k, k + (1 + (lay.opn []).length + (ppL' (lay.sub 0) 0 c).length + (lay.cls []).length + 1)) ::
      offsL' (lay.sub 0) 0 (k + (1 + (lay.opn []).length)) c
  | lay, ctx, k, .many1 c _ =>
    (k + openLen lay (ctx == 4),
      k + openLen lay (ctx == 4) + ((ppL' (lay.sub 0) 4 c).length + ((lay.dots []).length + 3))) ::
      offsL' (lay.sub 0) 4 (k + openLen lay (ctx == 4)) c
  | lay, ctx, k, .dd c d _ =>
    (k + openLen lay (decide (4 ≤ ctx)),
      k + openLen lay (decide (4 ≤ ctx)) +
        (ppL' (lay.sub 0) 5 c ++ descrTextL (lay.descr []) d.toList).length) ::
      offsL' (lay.sub 0) 5 (k + openLen lay (decide (4 ≤ ctx))) c
  | lay, ctx, k, .sub (.seq fs _) _ _ =>
    (k + openLen lay (ctx == 4 || ctx == 6 || (ctx == 5 && lastBare false fs)),
      k + openLen lay (ctx == 4 || ctx == 6 || (ctx == 5 && lastBare false fs)) +
        (ppListL' (lay.sub 0) 6 fs).length) ::
    (k + openLen lay (ctx == 4 || ctx == 6 || (ctx == 5 && lastBare false fs)),
      k + openLen lay (ctx == 4 || ctx == 6 || (ctx == 5 && lastBare false fs)) +
        (ppListL' (lay.sub 0) 6 fs).length) ::
      offsListL' (lay.sub 0) 6 (k + openLen lay (ctx == 4 || ctx == 6 || (ctx == 5 && lastBare false fs))) fs
  | _, _, _, .sub _ _ _ => []
def offsListL' : Layout' → Nat → Nat → ExprL → List (Nat × Nat)
  | _, _, _, .nil => []
  | lay, ctx, k, .cons e es =>
    offsL' (lay.sub 0) ctx k e ++ offsTailL' (lay.sub 1) ctx (k + (ppL' (lay.sub 0) ctx e).length) es
def offsTailL' : Layout' → Nat → Nat → ExprL → List (Nat × Nat)
  | _, _, _, .nil => []
  | lay, ctx, k, .cons e es =>
    offsL' (lay.sub 0) ctx (k + (sepL' lay ctx).length) e ++
      offsTailL' (lay.sub 1) ctx (k + (sepL' lay ctx).length + (ppL' (lay.sub 0) ctx e).length) es
end

theorem spanOf_adv (s : PState) (k n : Nat) : spanOf (s.adv k) n = spanAt s (k, k + n) := by
  simp [spanOf, spanAt, adv_add']

theorem placedL'_offs_all (e : Expr) :
    (∀ lay ctx k s e', PlacedL' lay ctx (PState.adv s k) e e' →
      spansOf e' = (offsL' lay ctx k e).map (spanAt s)) ∧
    ∀ fs sp, e = .seq fs sp → ∀ lay ctx k s fs', PlacedListL' lay ctx (PState.adv s k) fs fs' →
      spansOfL fs' = (offsListL' lay ctx k fs).map (spanAt s) := by
  refine Expr.rec
    (motive_1 := fun e => (∀ lay ctx k s e', PlacedL' lay ctx (PState.adv s k) e e' →
        spansOf e' = (offsL' lay ctx k e).map (spanAt s)) ∧
      ∀ fs sp, e = .seq fs sp → ∀ lay ctx k s fs', PlacedListL' lay ctx (PState.adv s k) fs fs' →
        spansOfL fs' = (offsListL' lay ctx k fs).map (spanAt s))
    (motive_2 := fun es =>
      (∀ lay ctx k s es', PlacedListL' lay ctx (PState.adv s k) es es' →
        spansOfL es' = (offsListL' lay ctx k es).map (spanAt s)) ∧
      (∀ lay ctx k s es', PlacedTailL' lay ctx (PState.adv s k) es es' →
        spansOfL es' = (offsTailL' lay ctx k es).map (spanAt s)))
    ?_ ?_ ?_ ?_ ?_ ?_ ?_ ?_ ?_ ?_ ?_ ?_ e
  · intro t d l sp
    refine ⟨fun lay ctx k s e' h => ?_, fun _ _ e => by cases e⟩
    cases d with
    | none =>
      simp only [PlacedL', skipParenL_adv, spanOf_adv] at h; subst h
      simp [spansOf, offsL']
    | some d =>
      simp only [PlacedL', spanOf_adv] at h; subst h
      simp [spansOf, offsL']
  · intro n l sp
    refine ⟨fun lay ctx k s e' h => ?_, fun _ _ e => by cases e⟩
    simp only [PlacedL', spanOf_adv] at h; subst h
    simp [spansOf, offsL']
  · intro c a l sp
    refine ⟨fun lay ctx k s e' h => ?_, fun _ _ e => by cases e⟩
    simp only [PlacedL', spanOf_adv] at h; subst h
    simp [spansOf, offsL']
  · intro cs sp ih
    refine ⟨fun lay ctx k s e' h => ?_, fun fs sp' e => by cases e; exact ih.1⟩
    simp only [PlacedL', skipParenL_adv, spanOf_adv] at h
    obtain ⟨cs', rfl, h⟩ := h
    simp only [spansOf, offsL', List.map_cons, ih.1 _ _ _ _ _ h]
  · intro cs sp ih
    refine ⟨fun lay ctx k s e' h => ?_, fun _ _ e => by cases e⟩
    simp only [PlacedL', skipParenL_adv, spanOf_adv] at h
    obtain ⟨cs', rfl, h⟩ := h
    simp only [spansOf, offsL', List.map_cons, ih.1 _ _ _ _ _ h]
  · intro cs sp ih
    refine ⟨fun lay ctx k s e' h => ?_, fun _ _ e => by cases e⟩
    simp only [PlacedL', skipParenL_adv, spanOf_adv] at h
    obtain ⟨cs', rfl, h⟩ := h
    simp only [spansOf, offsL', List.map_cons, ih.1 _ _ _ _ _ h]
  · intro c sp ih
    refine ⟨fun lay ctx k s e' h => ?_, fun _ _ e => by cases e⟩
    simp only [PlacedL', adv_add', spanOf_adv] at h
    obtain ⟨c', rfl, h⟩ := h
    simp only [spansOf, offsL', List.map_cons, ih.1 _ _ _ _ _ h]
  · intro c sp ih
    refine ⟨fun lay ctx k s e' h => ?_, fun _ _ e => by cases e⟩
    simp only [PlacedL', skipParenL_adv, spanOf_adv] at h
    obtain ⟨c', rfl, h⟩ := h
    simp only [spansOf, offsL', List.map_cons, ih.1 _ _ _ _ _ h]
  · intro c d sp ih
    refine ⟨fun lay ctx k s e' h => ?_, fun _ _ e => by cases e⟩
    simp only [PlacedL', skipParenL_adv, spanOf_adv] at h
    obtain ⟨c', rfl, h⟩ := h
    simp only [spansOf, offsL', List.map_cons, ih.1 _ _ _ _ _ h]
  · intro c l sp ih
    refine ⟨fun lay ctx k s e' h => ?_, fun _ _ e => by cases e⟩
    cases c with
    | seq fs sp1 =>
      simp only [PlacedL', skipParenL_adv, spanOf_adv] at h
      obtain ⟨fs', rfl, h⟩ := h
      simp only [spansOf, offsL', List.map_cons, ih.2 fs sp1 rfl _ _ _ _ _ h]
    | _ => simp [PlacedL'] at h
  · constructor
    · intro lay ctx k s es' h; simp only [PlacedListL'] at h; subst h; simp [spansOfL, offsListL']
    · intro lay ctx k s es' h; simp only [PlacedTailL'] at h; subst h; simp [spansOfL, offsTailL']
  · intro e es ihe ihes
    constructor
    · intro lay ctx k s es' h
      simp only [PlacedListL', adv_add'] at h
      obtain ⟨e', r', rfl, h1, h2⟩ := h
      simp only [spansOfL, offsListL', List.map_append, ihe.1 _ _ _ _ _ h1, ihes.2 _ _ _ _ _ h2]
    · intro lay ctx k s es' h
      simp only [PlacedTailL', adv_add'] at h
      obtain ⟨e', r', rfl, h1, h2⟩ := h
      simp only [spansOfL, offsTailL', List.map_append, ihe.1 _ _ _ _ _ h1, ihes.2 _ _ _ _ _ h2]

/-- **all the spans of a laid-out tree**, node by node in preorder: the span of each node runs from the state
reached from `s` by consuming the text before the node's first character to the state reached by consuming the
text up to its last character -/
theorem PlacedL'.spans {lay : Layout'} {ctx : Nat} {s : PState} {e e' : Expr} (h : PlacedL' lay ctx s e e') :
    spansOf e' = (offsL' lay ctx 0 e).map (spanAt s) :=
  (placedL'_offs_all e).1 lay ctx 0 s e' (by rw [adv_zero]; exact h)

mutual
/-- the own text of every node, in preorder (the order of `spansOf` and `offsL'`): what the printer wrote for
the node under its part of the layout, without the parenthesis (and the layout inside it) that the context of
the node forces.  For every node but one this is `ppL' lay' 0 node` for the part `lay'` of the layout that
belongs to the node (`ownTexts_head`); the `.seq` node under a word is the juxtaposition of the factors. -/
def ownTexts : Layout' → Expr → List (List Char)
  | _, .term t none _ _ => [escT 0 t.toList]
  | lay, .term t (some d) _ _ => [escT 0 t.toList ++ descrTextL (lay.descr []) d.toList]
  | _, .nonterm n _ _ => ['<' :: n.toList ++ ['>']]
  | _, .cmd c _ _ _ => [cmdText c.toList]
  | lay, .seq cs _ => ppListL' (lay.sub 0) 3 cs :: ownTextsL (lay.sub 0) cs
  | lay, .alt cs _ => ppListL' (lay.sub 0) 2 cs :: ownTextsL (lay.sub 0) cs
  | lay, .fb cs _ => ppListL' (lay.sub 0) 1 cs :: ownTextsL (lay.sub 0) cs
  | lay, .opt c _ => ('[' :: lay.opn [] ++ ppL' (lay.sub 0) 0 c ++ lay.cls [] ++ [']']) :: ownTexts (lay.sub 0) c
  | lay, .many1 c _ => (ppL' (lay.sub 0) 4 c ++ lay.dots [] ++ ['.', '.', '.']) :: ownTexts (lay.sub 0) c
  | lay, .dd c d _ =>
    (ppL' (lay.sub 0) 5 c ++ descrTextL (lay.descr []) d.toList) :: ownTexts (lay.sub 0) c
  | lay, .sub (.seq fs _) _ _ =>
    ppListL' (lay.sub 0) 6 fs :: ppListL' (lay.sub 0) 6 fs :: ownTextsL (lay.sub 0) fs
  | _, .sub _ _ _ => []
def ownTextsL : Layout' → ExprL → List (List Char)
  | _, .nil => []
  | lay, .cons e es => ownTexts (lay.sub 0) e ++ ownTextsL (lay.sub 1) es
end

theorem ownTexts_head (lay : Layout') (e : Expr) (h : NF' e) :
    ∃ r, ownTexts lay e = ppL' lay 0 e :: r := by
  cases e with
  | term t d l sp =>
    cases d with
    | none => exact ⟨[], by rw [ppL'_bare]; simp [ownTexts, parenIfL']⟩
    | some d => exact ⟨[], by rw [ppL'_descr]; simp [ownTexts]⟩
  | nonterm n l sp => exact ⟨[], by simp [ownTexts, ppL']⟩
  | cmd c a l sp => exact ⟨[], by simp [ownTexts, ppL']⟩
  | seq cs sp => exact ⟨ownTextsL (lay.sub 0) cs, by simp [ownTexts, ppL', parenIfL']⟩
  | alt cs sp => exact ⟨ownTextsL (lay.sub 0) cs, by simp [ownTexts, ppL', parenIfL']⟩
  | fb cs sp => exact ⟨ownTextsL (lay.sub 0) cs, by simp [ownTexts, ppL', parenIfL']⟩
  | opt c sp => exact ⟨ownTexts (lay.sub 0) c, by simp [ownTexts, ppL']⟩
  | many1 c sp => exact ⟨ownTexts (lay.sub 0) c, by simp [ownTexts, ppL', parenIfL']⟩
  | dd c d sp => exact ⟨ownTexts (lay.sub 0) c, by simp [ownTexts, ppL', parenIfL']⟩
  | sub c l sp =>
    cases c with
    | seq fs sp1 =>
      exact ⟨ppListL' (lay.sub 0) 6 fs :: ownTextsL (lay.sub 0) fs, by
        rw [ppL'_sub]; simp [ownTexts, parenIfL']⟩
    | _ => simp [NF'] at h

def opnT (lay : Layout') (b : Bool) : List Char := if b then '(' :: lay.opn [] else []

def clsT (lay : Layout') (b : Bool) : List Char := if b then lay.cls [] ++ [')'] else []

theorem parenIfL'_eq (lay : Layout') (b : Bool) (T : List Char) :
    parenIfL' lay b T = opnT lay b ++ T ++ clsT lay b := by
  cases b <;> simp [parenIfL', parenL, opnT, clsT]

theorem length_opnT (lay : Layout') (b : Bool) : (opnT lay b).length = openLen lay b := by
  cases b <;> simp [opnT, openLen]; omega

theorem offsL'_own_text_all (X : List Char) (e : Expr) :
    (NF' e → ∀ lay ctx k, ppL' lay ctx e <+: X.drop k →
      (offsL' lay ctx k e).map (slice X) = ownTexts lay e) ∧
    ∀ fs sp, e = .seq fs sp → NFL' fs → ∀ lay ctx k, ppListL' lay ctx fs <+: X.drop k →
      (offsListL' lay ctx k fs).map (slice X) = ownTextsL lay fs := by
  refine Expr.rec
    (motive_1 := fun e => (NF' e → ∀ lay ctx k, ppL' lay ctx e <+: X.drop k →
        (offsL' lay ctx k e).map (slice X) = ownTexts lay e) ∧
      ∀ fs sp, e = .seq fs sp → NFL' fs → ∀ lay ctx k, ppListL' lay ctx fs <+: X.drop k →
        (offsListL' lay ctx k fs).map (slice X) = ownTextsL lay fs)
    (motive_2 := fun es => NFL' es →
      (∀ lay ctx k, ppListL' lay ctx es <+: X.drop k →
        (offsListL' lay ctx k es).map (slice X) = ownTextsL lay es) ∧
      (∀ lay ctx k, ppTailL' lay ctx es <+: X.drop k →
        (offsTailL' lay ctx k es).map (slice X) = ownTextsL lay es))
    ?_ ?_ ?_ ?_ ?_ ?_ ?_ ?_ ?_ ?_ ?_ ?_ e
  · intro t d l sp
    refine ⟨fun _ lay ctx k hX => ?_, fun _ _ e => by cases e⟩
    cases d with
    | none =>
      rw [ppL'_bare, parenIfL'_eq] at hX
      simp only [offsL', ownTexts, List.map_cons, List.map_nil, slice_prefix (prefix_mid hX (length_opnT _ _)) rfl]
    | some d =>
      rw [ppL'_descr] at hX
      simp only [offsL', ownTexts, List.map_cons, List.map_nil, slice_prefix hX rfl]
  · intro n l sp
    refine ⟨fun _ lay ctx k hX => ?_, fun _ _ e => by cases e⟩
    simp only [ppL'] at hX
    simp only [offsL', ownTexts, List.map_cons, List.map_nil]
    rw [slice_prefix hX (by simp)]
  · intro c a l sp
    refine ⟨fun _ lay ctx k hX => ?_, fun _ _ e => by cases e⟩
    simp only [ppL'] at hX
    simp only [offsL', ownTexts, List.map_cons, List.map_nil, slice_prefix hX rfl]
  · intro cs sp ih
    refine ⟨fun h lay ctx k hX => ?_, fun fs sp' e hfs => by cases e; exact (ih hfs).1⟩
    simp only [NF'] at h
    simp only [ppL', parenIfL'_eq] at hX
    have h1 := prefix_mid hX (length_opnT _ _)
    simp only [offsL', ownTexts, List.map_cons, slice_prefix h1 rfl, (ih h.2).1 _ _ _ h1]
  · intro cs sp ih
    refine ⟨fun h lay ctx k hX => ?_, fun _ _ e => by cases e⟩
    simp only [NF'] at h
    simp only [ppL', parenIfL'_eq] at hX
    have h1 := prefix_mid hX (length_opnT _ _)
    simp only [offsL', ownTexts, List.map_cons, slice_prefix h1 rfl, (ih h.2).1 _ _ _ h1]
  · intro cs sp ih
    refine ⟨fun h lay ctx k hX => ?_, fun _ _ e => by cases e⟩
    simp only [NF'] at h
    simp only [ppL', parenIfL'_eq] at hX
    have h1 := prefix_mid hX (length_opnT _ _)
    simp only [offsL', ownTexts, List.map_cons, slice_prefix h1 rfl, (ih h.2).1 _ _ _ h1]
  · intro c sp ih
    refine ⟨fun h lay ctx k hX => ?_, fun _ _ e => by cases e⟩
    simp only [NF'] at h
    simp only [ppL'] at hX
    have h1 : ppL' (lay.sub 0) 0 c <+: X.drop (k + (1 + (lay.opn []).length)) :=
      prefix_mid ((List.prefix_append _ _).trans hX) (by simp only [List.length_cons]; omega)
    simp only [offsL', ownTexts, List.map_cons, ih.1 h _ _ _ h1]
    rw [slice_prefix hX (by simp only [List.length_append, List.length_cons, List.length_nil]; omega)]
  · intro c sp ih
    refine ⟨fun h lay ctx k hX => ?_, fun _ _ e => by cases e⟩
    simp only [NF'] at h
    simp only [ppL', parenIfL'_eq] at hX
    have h1 := prefix_mid hX (length_opnT _ _)
    have h2 := (List.prefix_append _ _).trans ((List.prefix_append _ _).trans h1)
    simp only [offsL', ownTexts, List.map_cons, ih.1 h _ _ _ h2]
    rw [slice_prefix h1 (by simp only [List.length_append, List.length_cons, List.length_nil]; omega)]
  · intro c d sp ih
    refine ⟨fun h lay ctx k hX => ?_, fun _ _ e => by cases e⟩
    simp only [NF'] at h
    simp only [ppL', parenIfL'_eq] at hX
    have h1 := prefix_mid hX (length_opnT _ _)
    simp only [offsL', ownTexts, List.map_cons, slice_prefix h1 rfl,
      ih.1 h _ _ _ ((List.prefix_append _ _).trans h1)]
  · intro c l sp ih
    refine ⟨fun h lay ctx k hX => ?_, fun _ _ e => by cases e⟩
    cases c with
    | seq fs sp1 =>
      simp only [NF'] at h
      rw [ppL'_sub, parenIfL'_eq] at hX
      have h1 := prefix_mid hX (length_opnT _ _)
      simp only [offsL', ownTexts, List.map_cons, slice_prefix h1 rfl,
        ih.2 fs sp1 rfl (NFW_NFL fs h.2.2) _ _ _ h1]
    | _ => simp [NF'] at h
  · intro _
    constructor
    · intro lay ctx k _; simp [offsListL', ownTextsL]
    · intro lay ctx k _; simp [offsTailL', ownTextsL]
  · intro e es ihe ihes h
    simp only [NFL'] at h
    constructor
    · intro lay ctx k hX
      simp only [ppListL'] at hX
      simp only [offsListL', ownTextsL, List.map_append, ihe.1 h.1 _ _ _ ((List.prefix_append _ _).trans hX),
        (ihes h.2).2 _ _ _ (prefix_drop hX rfl)]
    · intro lay ctx k hX
      simp only [ppTailL'] at hX
      have h2 := prefix_drop hX rfl
      rw [List.length_append, ← Nat.add_assoc] at h2
      simp only [offsTailL', ownTextsL, List.map_append, ihe.1 h.1 _ _ _ (prefix_mid hX rfl), (ihes h.2).2 _ _ _ h2]

/-- **the offsets of `offsL'` are those of the constructs**: in any text `X` that contains `ppL' lay ctx e` from
offset `pre.length` on, the characters between the two offsets recorded for a node are exactly the node's own
text: what the printer wrote for it under its part of the layout, without the parenthesis (and the layout
inside it) that the context forces around it (`ownTexts`) -/
theorem offsL'_own_text (X : List Char) (e : Expr) (hnf : NF' e) (lay : Layout') (ctx : Nat)
    (pre post : List Char) (hX : X = pre ++ ppL' lay ctx e ++ post) :
    (offsL' lay ctx pre.length e).map (slice X) = ownTexts lay e :=
  (offsL'_own_text_all X e).1 hnf lay ctx _ (prefix_of_eq hX)

end Full

theorem spanAt_init (t : List Char) (ab : Nat × Nat) :
    (spanAt (PState.init t) ab).line = 1 + (t.take ab.1).count '\n' ∧
    (spanAt (PState.init t) ab).cs = 1 + bytesLen (Parse.Pos.lastLine (t.take ab.1)) :=
  init_adv_position t ab.1

theorem Full.PlacedL'.span_top_in_file {t : List Char} {k : Nat} {lay : Layout'} {e e' : Expr}
    (h : PlacedL' lay 0 ((PState.init t).adv k) e e') :
    e'.span.line = 1 + (t.take k).count '\n' ∧
    e'.span.cs = 1 + bytesLen (Parse.Pos.lastLine (t.take k)) := by
  rw [h.span_top_start.1, h.span_top_start.2]
  exact init_adv_position t k

theorem Full.PlacedL'.spans_in_file {t : List Char} {k : Nat} {lay : Layout'} {ctx : Nat} {e e' : Expr}
    (h : PlacedL' lay ctx ((PState.init t).adv k) e e') :
    spansOf e' = (offsL' lay ctx k e).map (spanAt (PState.init t)) ∧
    ∀ sp ∈ spansOf e', ∃ ab ∈ offsL' lay ctx k e,
      sp.line = 1 + (t.take ab.1).count '\n' ∧
      sp.cs = 1 + bytesLen (Parse.Pos.lastLine (t.take ab.1)) := by
  have h3 := (placedL'_offs_all e).1 lay ctx k (PState.init t) e' h
  refine ⟨h3, ?_⟩
  intro sp hsp
  rw [h3, List.mem_map] at hsp
  obtain ⟨ab, hab, rfl⟩ := hsp
  exact ⟨ab, hab, spanAt_init t ab⟩

/-- **Every span points at its construct, in a file, on the larger fragment under any admissible layout**: when
the text `ppL' lay 0 e` of a tree of `NF'` stands in a file `t` after the text `pre` (and is followed by
something that ends an expression), `fallback_expr`, started there, consumes exactly that text and returns a
tree `e'` that is `e` up to spans and is laid out there (`PlacedL'`); node by node in preorder
(`spansOf e'`), the span of each node starts at the line (1 + line feeds before) and byte column (1 + bytes
since the last line feed) of the offset in `t` of the first character of that node's own text — `offsL'` lists
these offsets, and the characters of `t` between the two offsets of a node are that node's own text
(`ownTexts`). -/
theorem fallback_spans_full_in_file (pre : List Char) (e : Expr) (hnf : NF' e) (lay : Layout') (adm : lay.Adm)
    (rest : List Char) (hrest : Follows rest) (t : List Char) (ht : t = pre ++ ppL' lay 0 e ++ rest)
    (fuel : Nat) (hfuel : needF e ≤ fuel) :
    ∃ e', fallback fuel ((PState.init t).adv pre.length) =
        some ((PState.init t).adv (pre.length + (ppL' lay 0 e).length), e') ∧
      PlacedL' lay 0 ((PState.init t).adv pre.length) e e' ∧
      e'.eraseSpans = e.eraseSpans ∧
      spansOf e' = (offsL' lay 0 pre.length e).map (spanAt (PState.init t)) ∧
      (offsL' lay 0 pre.length e).map (slice t) = ownTexts lay e ∧
      ∀ sp ∈ spansOf e', ∃ ab ∈ offsL' lay 0 pre.length e,
        sp.line = 1 + (t.take ab.1).count '\n' ∧
        sp.cs = 1 + bytesLen (Parse.Pos.lastLine (t.take ab.1)) := by
  have hs : ((PState.init t).adv pre.length).rest = ppL' lay 0 e ++ rest := by
    apply adv_rest_append
    simp [PState.init, ht, List.append_assoc]
  obtain ⟨e', h1, h2⟩ := fallback_spans_full_layout e hnf lay adm rest hrest _ hs fuel hfuel
  exact ⟨e', by rw [h1, adv_add'], h2, h2.eraseSpans, h2.spans_in_file.1,
    offsL'_own_text t e hnf lay 0 pre rest ht, h2.spans_in_file.2⟩

/-! ### the smaller fragment: at the plain layout `PlacedL'` is `Placed` -/

namespace Full

theorem skipParenL_plain (b : Bool) (s : PState) : skipParenL plainLayout' b s = skipParen b s := by
  cases b <;> rfl

theorem ppL'_plain_pp (e : Expr) (h : NF e) (ctx : Nat) (hc : ctx ≤ 4) : ppL' plainLayout' ctx e = pp ctx e := by
  rw [ppL'_plain, pp'_eq_pp e h ctx hc]

mutual
theorem placed_of_plain : ∀ e : Expr, NF e → ∀ ctx, ctx ≤ 4 → ∀ (s : PState) (e' : Expr),
    PlacedL' plainLayout' ctx s e e' → Placed ctx s e e'
  | .term t d l sp => by
    intro h ctx hc s e' hp
    simp only [NF] at h
    obtain ⟨rfl, _, _, h4, _⟩ := h
    have h5 : (ctx == 5) = false := by simp; omega
    simp only [PlacedL', escT_regular 0 _ h4, endsDot_regular _ h4, h5, Bool.and_false, Bool.or_false,
      skipParenL_plain, skipParen, Bool.false_eq_true, if_false, spanOf] at hp
    simpa only [Placed] using hp
  | .nonterm n l sp | .cmd c a l sp => by
    intro _ ctx _ s e' hp
    simpa only [PlacedL', Placed, spanOf] using hp
  | .seq cs sp => by
    intro h ctx _ s e' hp
    have hl : ppListL' plainLayout' 3 cs = ppList 3 sepS cs := by
      simpa [ppL', pp, parenIfL', parenIf, plainLayout'_sub] using ppL'_plain_pp (.seq cs sp) h 0 (by omega)
    simp only [NF] at h
    simp only [PlacedL', plainLayout'_sub, skipParenL_plain, spanOf, hl] at hp
    obtain ⟨cs', rfl, hp⟩ := hp
    simp only [Placed]
    exact ⟨cs', rfl, placedList_of_plain cs h.2 3 (by omega) _ _ hp⟩
  | .alt cs sp => by
    intro h ctx _ s e' hp
    have hl : ppListL' plainLayout' 2 cs = ppList 2 sepA cs := by
      simpa [ppL', pp, parenIfL', parenIf, plainLayout'_sub] using ppL'_plain_pp (.alt cs sp) h 0 (by omega)
    simp only [NF] at h
    simp only [PlacedL', plainLayout'_sub, skipParenL_plain, spanOf, hl] at hp
    obtain ⟨cs', rfl, hp⟩ := hp
    simp only [Placed]
    exact ⟨cs', rfl, placedList_of_plain cs h.2 2 (by omega) _ _ hp⟩
  | .fb cs sp => by
    intro h ctx _ s e' hp
    have hl : ppListL' plainLayout' 1 cs = ppList 1 sepF cs := by
      simpa [ppL', pp, parenIfL', parenIf, plainLayout'_sub] using ppL'_plain_pp (.fb cs sp) h 0 (by omega)
    simp only [NF] at h
    simp only [PlacedL', plainLayout'_sub, skipParenL_plain, spanOf, hl] at hp
    obtain ⟨cs', rfl, hp⟩ := hp
    simp only [Placed]
    exact ⟨cs', rfl, placedList_of_plain cs h.2 1 (by omega) _ _ hp⟩
  | .opt c sp => by
    intro h ctx _ s e' hp
    simp only [NF] at h
    have e1 : 1 + (plainLayout'.opn []).length + (pp 0 c).length + (plainLayout'.cls []).length + 1 =
        (pp 0 c).length + 2 := by simp [plainLayout']; omega
    simp only [PlacedL', plainLayout'_sub, spanOf, ppL'_plain_pp c h 0 (by omega), e1] at hp
    obtain ⟨c', rfl, hp⟩ := hp
    simp only [Placed]
    exact ⟨c', rfl, placed_of_plain c h 0 (by omega) _ _ hp⟩
  | .many1 c sp => by
    intro h ctx hc s e' hp
    simp only [NF] at h
    have hb : (ctx == 4) = decide (4 ≤ ctx) := by rw [Bool.eq_iff_iff]; simp; omega
    have e1 : (plainLayout'.dots []).length + 3 = 3 := rfl
    simp only [PlacedL', plainLayout'_sub, skipParenL_plain, spanOf, ppL'_plain_pp c h 4 (by omega), hb, e1]
      at hp
    obtain ⟨c', rfl, hp⟩ := hp
    simp only [Placed]
    exact ⟨c', rfl, placed_of_plain c h 4 (by omega) _ _ hp⟩
  | .dd _ _ _ | .sub _ _ _ => by intro h; simp [NF] at h
theorem placedList_of_plain : ∀ es : ExprL, NFL es → ∀ k, k ≤ 4 → ∀ (s : PState) (es' : ExprL),
    PlacedListL' plainLayout' k s es es' → PlacedL k (sepOf k) s es es'
  | .nil => by intro _ k _ s es' hp; simpa only [PlacedListL', PlacedL] using hp
  | .cons e es => by
    intro h k hk s es' hp
    simp only [NFL] at h
    simp only [PlacedListL', plainLayout'_sub, ppL'_plain_pp e h.1 k hk] at hp
    obtain ⟨e', r', rfl, h1, h2⟩ := hp
    simp only [PlacedL]
    exact ⟨e', r', rfl, placed_of_plain e h.1 k hk _ _ h1, placedTail_of_plain es h.2 k hk _ _ h2⟩
theorem placedTail_of_plain : ∀ es : ExprL, NFL es → ∀ k, k ≤ 4 → ∀ (s : PState) (es' : ExprL),
    PlacedTailL' plainLayout' k s es es' → PlacedTail k (sepOf k) s es es'
  | .nil => by intro _ k _ s es' hp; simpa only [PlacedTailL', PlacedTail] using hp
  | .cons e es => by
    intro h k hk s es' hp
    simp only [NFL] at h
    simp only [PlacedTailL', plainLayout'_sub, ppL'_plain_pp e h.1 k hk, sepL'_plain] at hp
    obtain ⟨e', r', rfl, h1, h2⟩ := hp
    simp only [PlacedTail]
    exact ⟨e', r', rfl, placed_of_plain e h.1 k hk _ _ h1, placedTail_of_plain es h.2 k hk _ _ h2⟩
end

end Full

/-- **Every span points at its construct**: a normal-form tree printed with the fewest parentheses,
followed by the end of the input, `;`, `)`, `]` (possibly after blanks and comments), is parsed by
`fallback_expr` into a tree every node of which carries the span of exactly the text the printer wrote
for that node (`Placed`): it starts at the state reached by consuming what was printed before the
node's first character, and ends after its last character. -/
theorem fallback_spans (e : Expr) (hnf : NF e) (rest : List Char) (hrest : Follows rest) (s : PState)
    (hs : s.rest = pp 0 e ++ rest) (fuel : Nat) (hfuel : fuelNeeded e ≤ fuel) :
    ∃ e', fallback fuel s = some (s.adv (pp 0 e).length, e') ∧ Placed 0 s e e' := by
  rw [← ppL'_plain_pp e hnf 0 (by omega)] at hs ⊢
  obtain ⟨e', h1, h2⟩ := fallback_spans_full_layout e (NF_sub e hnf) plainLayout' plainLayout'_adm rest hrest s
    hs fuel (Nat.le_trans (needF_le_fuelNeeded e) hfuel)
  exact ⟨e', h1, placed_of_plain e hnf 0 (by omega) s e' h2⟩

theorem placed_erase_all (e : Expr) : ∀ ctx s e', Placed ctx s e e' → e'.eraseSpans = e.eraseSpans := by
  refine Expr.rec (motive_1 := fun e => ∀ ctx s e', Placed ctx s e e' → e'.eraseSpans = e.eraseSpans)
    (motive_2 := fun es =>
      (∀ ctx sep s es', PlacedL ctx sep s es es' → es'.eraseSpans = es.eraseSpans) ∧
      (∀ ctx sep s es', PlacedTail ctx sep s es es' → es'.eraseSpans = es.eraseSpans))
    ?_ ?_ ?_ ?_ ?_ ?_ ?_ ?_ ?_ ?_ ?_ ?_ e
  · intro t d l sp ctx s e' h; simp only [Placed] at h; subst h; simp [Expr.eraseSpans]
  · intro n l sp ctx s e' h; simp only [Placed] at h; subst h; simp [Expr.eraseSpans]
  · intro c a l sp ctx s e' h; simp only [Placed] at h; subst h; simp [Expr.eraseSpans]
  · intro cs sp ih ctx s e' h
    simp only [Placed] at h
    obtain ⟨cs', rfl, h⟩ := h
    simp only [Expr.eraseSpans]; rw [ih.1 _ _ _ _ h]
  · intro cs sp ih ctx s e' h
    simp only [Placed] at h
    obtain ⟨cs', rfl, h⟩ := h
    simp only [Expr.eraseSpans]; rw [ih.1 _ _ _ _ h]
  · intro cs sp ih ctx s e' h
    simp only [Placed] at h
    obtain ⟨cs', rfl, h⟩ := h
    simp only [Expr.eraseSpans]; rw [ih.1 _ _ _ _ h]
  · intro c sp ih ctx s e' h
    simp only [Placed] at h
    obtain ⟨c', rfl, h⟩ := h
    simp only [Expr.eraseSpans]; rw [ih _ _ _ h]
  · intro c sp ih ctx s e' h
    simp only [Placed] at h
    obtain ⟨c', rfl, h⟩ := h
    simp only [Expr.eraseSpans]; rw [ih _ _ _ h]
  · intro c d sp _ ctx s e' h; simp [Placed] at h
  · intro c l sp _ ctx s e' h; simp [Placed] at h
  · constructor
    · intro ctx sep s es' h; simp only [PlacedL] at h; subst h; rfl
    · intro ctx sep s es' h; simp only [PlacedTail] at h; subst h; rfl
  · intro e es ihe ihes
    constructor
    · intro ctx sep s es' h
      simp only [PlacedL] at h
      obtain ⟨e', r', rfl, h1, h2⟩ := h
      simp only [ExprL.eraseSpans]; rw [ihe _ _ _ h1, ihes.2 _ _ _ _ h2]
    · intro ctx sep s es' h
      simp only [PlacedTail] at h
      obtain ⟨e', r', rfl, h1, h2⟩ := h
      simp only [ExprL.eraseSpans]; rw [ihe _ _ _ h1, ihes.2 _ _ _ _ h2]

theorem Placed.eraseSpans {ctx : Nat} {s : PState} {e e' : Expr} (h : Placed ctx s e e') :
    e'.eraseSpans = e.eraseSpans := placed_erase_all e ctx s e' h

/-- does `pp ctx e` begin with a parenthesis that is not part of the node? -/
def ownParen : Nat → Expr → Bool
  | ctx, .seq _ _ => decide (3 ≤ ctx)
  | ctx, .alt _ _ => decide (2 ≤ ctx)
  | ctx, .fb _ _ => decide (1 ≤ ctx)
  | ctx, .many1 _ _ => decide (4 ≤ ctx)
  | _, _ => false

theorem ownParen_zero (e : Expr) : ownParen 0 e = false := by
  cases e <;> simp [ownParen]

theorem length_parenIf (b : Bool) (T : List Char) :
    (parenIf b T).length = T.length + 2 * b.toNat := by
  cases b <;> simp [parenIf]

/-- the span of the root of a laid-out tree: it covers the printed text without the parentheses the
context forced around it -/
theorem Placed.span {ctx : Nat} {s : PState} {e e' : Expr} (h : Placed ctx s e e') :
    e'.span = fromRange (skipParen (ownParen ctx e) s)
      ((skipParen (ownParen ctx e) s).adv ((pp ctx e).length - 2 * (ownParen ctx e).toNat)) := by
  cases e with
  | term t d l sp => simp only [Placed] at h; subst h; simp [Expr.span, ownParen, skipParen, pp]
  | nonterm n l sp => simp only [Placed] at h; subst h; simp [Expr.span, ownParen, skipParen, pp]
  | cmd c a l sp => simp only [Placed] at h; subst h; simp [Expr.span, ownParen, skipParen, pp]
  | seq cs sp =>
    simp only [Placed] at h; obtain ⟨cs', rfl, _⟩ := h
    simp only [Expr.span, ownParen, pp, length_parenIf]
    rw [Nat.add_sub_cancel]
  | alt cs sp =>
    simp only [Placed] at h; obtain ⟨cs', rfl, _⟩ := h
    simp only [Expr.span, ownParen, pp, length_parenIf]
    rw [Nat.add_sub_cancel]
  | fb cs sp =>
    simp only [Placed] at h; obtain ⟨cs', rfl, _⟩ := h
    simp only [Expr.span, ownParen, pp, length_parenIf]
    rw [Nat.add_sub_cancel]
  | opt c sp =>
    simp only [Placed] at h; obtain ⟨c', rfl, _⟩ := h
    simp [Expr.span, ownParen, skipParen, pp]
  | many1 c sp =>
    simp only [Placed] at h; obtain ⟨c', rfl, _⟩ := h
    simp only [Expr.span, ownParen, pp, length_parenIf]
    rw [Nat.add_sub_cancel]; simp
  | dd c d sp => simp [Placed] at h
  | sub c l sp => simp [Placed] at h

theorem Placed.span_start {ctx : Nat} {s : PState} {e e' : Expr} (h : Placed ctx s e e') :
    e'.span.line = (skipParen (ownParen ctx e) s).line ∧ e'.span.cs = (skipParen (ownParen ctx e) s).col := by
  rw [h.span]; exact ⟨rfl, rfl⟩

theorem Placed.span_top {s : PState} {e e' : Expr} (h : Placed 0 s e e') :
    e'.span = fromRange s (s.adv (pp 0 e).length) := by
  have := h.span
  simpa [ownParen_zero, skipParen] using this

theorem Placed.span_top_start {s : PState} {e e' : Expr} (h : Placed 0 s e e') :
    e'.span.line = s.line ∧ e'.span.cs = s.col := by
  rw [h.span_top]; exact ⟨rfl, rfl⟩

mutual
/-- for every node of `e`, in preorder: the offsets of the first character of the node's own text and
of the character after its last one, in a text in which `pp ctx e` begins at offset `k` -/
def offs : Nat → Nat → Expr → List (Nat × Nat)
  | _, k, .term t _ _ _ => [(k, k + t.toList.length)]
  | _, k, .nonterm n _ _ => [(k, k + (n.toList.length + 2))]
  | _, k, .cmd c _ _ _ => [(k, k + (cmdText c.toList).length)]
  | ctx, k, .seq cs _ =>
    (k + (decide (3 ≤ ctx)).toNat, k + (decide (3 ≤ ctx)).toNat + (ppList 3 sepS cs).length) ::
      offsL 3 sepS (k + (decide (3 ≤ ctx)).toNat) cs
  | ctx, k, .alt cs _ =>
    (k + (decide (2 ≤ ctx)).toNat, k + (decide (2 ≤ ctx)).toNat + (ppList 2 sepA cs).length) ::
      offsL 2 sepA (k + (decide (2 ≤ ctx)).toNat) cs
  | ctx, k, .fb cs _ =>
    (k + (decide (1 ≤ ctx)).toNat, k + (decide (1 ≤ ctx)).toNat + (ppList 1 sepF cs).length) ::
      offsL 1 sepF (k + (decide (1 ≤ ctx)).toNat) cs
  | _, k, .opt c _ => (k, k + ((pp 0 c).length + 2)) :: offs 0 (k + 1) c
  | ctx, k, .many1 c _ =>
    (k + (decide (4 ≤ ctx)).toNat, k + (decide (4 ≤ ctx)).toNat + ((pp 4 c).length + 3)) ::
      offs 4 (k + (decide (4 ≤ ctx)).toNat) c
  | _, _, .dd _ _ _ => []
  | _, _, .sub _ _ _ => []
def offsL : Nat → List Char → Nat → ExprL → List (Nat × Nat)
  | _, _, _, .nil => []
  | ctx, sep, k, .cons e es => offs ctx k e ++ offsTail ctx sep (k + (pp ctx e).length) es
def offsTail : Nat → List Char → Nat → ExprL → List (Nat × Nat)
  | _, _, _, .nil => []
  | ctx, sep, k, .cons e es =>
    offs ctx (k + sep.length) e ++ offsTail ctx sep (k + sep.length + (pp ctx e).length) es
end

theorem skipParen_adv (b : Bool) (s : PState) (k : Nat) : skipParen b (s.adv k) = s.adv (k + b.toNat) := by
  cases b <;> simp [skipParen, adv_add']

theorem placed_offs_all (e : Expr) : ∀ ctx k s e', Placed ctx (PState.adv s k) e e' →
    spansOf e' = (offs ctx k e).map (spanAt s) := by
  refine Expr.rec
    (motive_1 := fun e => ∀ ctx k s e', Placed ctx (PState.adv s k) e e' →
      spansOf e' = (offs ctx k e).map (spanAt s))
    (motive_2 := fun es =>
      (∀ ctx sep k s es', PlacedL ctx sep (PState.adv s k) es es' →
        spansOfL es' = (offsL ctx sep k es).map (spanAt s)) ∧
      (∀ ctx sep k s es', PlacedTail ctx sep (PState.adv s k) es es' →
        spansOfL es' = (offsTail ctx sep k es).map (spanAt s)))
    ?_ ?_ ?_ ?_ ?_ ?_ ?_ ?_ ?_ ?_ ?_ ?_ e
  · intro t d l sp ctx k s e' h
    simp only [Placed] at h; subst h
    simp [spansOf, offs, spanAt, adv_add']
  · intro n l sp ctx k s e' h
    simp only [Placed] at h; subst h
    simp [spansOf, offs, spanAt, adv_add']
  · intro c a l sp ctx k s e' h
    simp only [Placed] at h; subst h
    simp [spansOf, offs, spanAt, adv_add']
  · intro cs sp ih ctx k s e' h
    simp only [Placed, skipParen_adv, adv_add'] at h
    obtain ⟨cs', rfl, h⟩ := h
    simp only [spansOf, offs, List.map_cons, spanAt, ih.1 _ _ _ _ _ h]
  · intro cs sp ih ctx k s e' h
    simp only [Placed, skipParen_adv, adv_add'] at h
    obtain ⟨cs', rfl, h⟩ := h
    simp only [spansOf, offs, List.map_cons, spanAt, ih.1 _ _ _ _ _ h]
  · intro cs sp ih ctx k s e' h
    simp only [Placed, skipParen_adv, adv_add'] at h
    obtain ⟨cs', rfl, h⟩ := h
    simp only [spansOf, offs, List.map_cons, spanAt, ih.1 _ _ _ _ _ h]
  · intro c sp ih ctx k s e' h
    simp only [Placed, adv_add'] at h
    obtain ⟨c', rfl, h⟩ := h
    simp only [spansOf, offs, List.map_cons, spanAt, ih _ _ _ _ h]
  · intro c sp ih ctx k s e' h
    simp only [Placed, skipParen_adv, adv_add'] at h
    obtain ⟨c', rfl, h⟩ := h
    simp only [spansOf, offs, List.map_cons, spanAt, ih _ _ _ _ h]
  · intro c d sp _ ctx k s e' h; simp [Placed] at h
  · intro c l sp _ ctx k s e' h; simp [Placed] at h
  · constructor
    · intro ctx sep k s es' h; simp only [PlacedL] at h; subst h; simp [spansOfL, offsL]
    · intro ctx sep k s es' h; simp only [PlacedTail] at h; subst h; simp [spansOfL, offsTail]
  · intro e es ihe ihes
    constructor
    · intro ctx sep k s es' h
      simp only [PlacedL, adv_add'] at h
      obtain ⟨e', r', rfl, h1, h2⟩ := h
      simp only [spansOfL, offsL, List.map_append, ihe _ _ _ _ h1, ihes.2 _ _ _ _ _ h2]
    · intro ctx sep k s es' h
      simp only [PlacedTail, adv_add'] at h
      obtain ⟨e', r', rfl, h1, h2⟩ := h
      simp only [spansOfL, offsTail, List.map_append, ihe _ _ _ _ h1, ihes.2 _ _ _ _ _ h2]

theorem Placed.spans {ctx : Nat} {s : PState} {e e' : Expr} (h : Placed ctx s e e') :
    spansOf e' = (offs ctx 0 e).map (spanAt s) :=
  placed_offs_all e ctx 0 s e' (by rw [adv_zero]; exact h)

mutual
/-- all nodes, in preorder -/
def nodesOf : Expr → List Expr
  | .term t d l sp => [.term t d l sp]
  | .nonterm n l sp => [.nonterm n l sp]
  | .cmd c a l sp => [.cmd c a l sp]
  | .seq cs sp => .seq cs sp :: nodesOfL cs
  | .alt cs sp => .alt cs sp :: nodesOfL cs
  | .fb cs sp => .fb cs sp :: nodesOfL cs
  | .opt c sp => .opt c sp :: nodesOf c
  | .many1 c sp => .many1 c sp :: nodesOf c
  | .dd c d sp => .dd c d sp :: nodesOf c
  | .sub c l sp => .sub c l sp :: nodesOf c
def nodesOfL : ExprL → List Expr
  | .nil => []
  | .cons e es => nodesOf e ++ nodesOfL es
end

theorem parenIf_eq (b : Bool) (T : List Char) :
    parenIf b T = (if b then ['('] else []) ++ T ++ (if b then [')'] else []) := by
  cases b <;> simp [parenIf]

theorem length_open (b : Bool) : (if b then ['('] else [] : List Char).length = b.toNat := by
  cases b <;> rfl

theorem offs_own_text_all (X : List Char) (e : Expr) : NF e → ∀ ctx k, pp ctx e <+: X.drop k →
    (offs ctx k e).map (slice X) = (nodesOf e).map (pp 0) := by
  refine Expr.rec
    (motive_1 := fun e => NF e → ∀ ctx k, pp ctx e <+: X.drop k →
      (offs ctx k e).map (slice X) = (nodesOf e).map (pp 0))
    (motive_2 := fun es => NFL es →
      (∀ ctx sep k, ppList ctx sep es <+: X.drop k →
        (offsL ctx sep k es).map (slice X) = (nodesOfL es).map (pp 0)) ∧
      (∀ ctx sep k, ppTail ctx sep es <+: X.drop k →
        (offsTail ctx sep k es).map (slice X) = (nodesOfL es).map (pp 0)))
    ?_ ?_ ?_ ?_ ?_ ?_ ?_ ?_ ?_ ?_ ?_ ?_ e
  · intro t d l sp _ ctx k hX
    simp only [offs, nodesOf, List.map_cons, List.map_nil, pp] at hX ⊢
    rw [slice_prefix hX rfl]
  · intro n l sp _ ctx k hX
    simp only [offs, nodesOf, List.map_cons, List.map_nil, pp] at hX ⊢
    rw [slice_prefix hX (by simp)]
  · intro c a l sp _ ctx k hX
    simp only [offs, nodesOf, List.map_cons, List.map_nil, pp] at hX ⊢
    rw [slice_prefix hX rfl]
  · intro cs sp ih h ctx k hX
    simp only [NF] at h
    simp only [pp, parenIf_eq] at hX
    have h1 := prefix_mid hX (length_open _)
    simp only [offs, nodesOf, List.map_cons, slice_prefix h1 rfl, (ih h.2).1 _ _ _ h1]
    simp [pp, parenIf]
  · intro cs sp ih h ctx k hX
    simp only [NF] at h
    simp only [pp, parenIf_eq] at hX
    have h1 := prefix_mid hX (length_open _)
    simp only [offs, nodesOf, List.map_cons, slice_prefix h1 rfl, (ih h.2).1 _ _ _ h1]
    simp [pp, parenIf]
  · intro cs sp ih h ctx k hX
    simp only [NF] at h
    simp only [pp, parenIf_eq] at hX
    have h1 := prefix_mid hX (length_open _)
    simp only [offs, nodesOf, List.map_cons, slice_prefix h1 rfl, (ih h.2).1 _ _ _ h1]
    simp [pp, parenIf]
  · intro c sp ih h ctx k hX
    simp only [NF] at h
    simp only [pp] at hX
    have h1 : pp 0 c <+: X.drop (k + 1) := prefix_mid (A := ['[']) hX rfl
    simp only [offs, nodesOf, List.map_cons, ih h _ _ h1]
    rw [slice_prefix hX (by simp)]
    simp [pp]
  · intro c sp ih h ctx k hX
    simp only [NF] at h
    simp only [pp, parenIf_eq] at hX
    have h1 := prefix_mid hX (length_open _)
    simp only [offs, nodesOf, List.map_cons, ih h _ _ ((List.prefix_append _ _).trans h1)]
    rw [slice_prefix h1 (by simp)]
    simp [pp, parenIf]
  · intro c d sp _ h; simp [NF] at h
  · intro c l sp _ h; simp [NF] at h
  · intro _
    constructor
    · intro ctx sep k _; simp [offsL, nodesOfL]
    · intro ctx sep k _; simp [offsTail, nodesOfL]
  · intro e es ihe ihes h
    simp only [NFL] at h
    constructor
    · intro ctx sep k hX
      simp only [ppList] at hX
      simp only [offsL, nodesOfL, List.map_append, ihe h.1 _ _ ((List.prefix_append _ _).trans hX),
        (ihes h.2).2 _ _ _ (prefix_drop hX rfl)]
    · intro ctx sep k hX
      simp only [ppTail] at hX
      have h2 := prefix_drop hX rfl
      rw [List.length_append, ← Nat.add_assoc] at h2
      simp only [offsTail, nodesOfL, List.map_append, ihe h.1 _ _ (prefix_mid hX rfl), (ihes h.2).2 _ _ _ h2]

/-- **the offsets of `offs` are those of the constructs**: in any text `X` that contains `pp ctx e`
from offset `pre.length` on, the characters between the two offsets recorded for a node are exactly
the node's own text (its printed form without surrounding parentheses) -/
theorem offs_own_text (X : List Char) (e : Expr) (hnf : NF e) (ctx : Nat) (pre post : List Char)
    (hX : X = pre ++ pp ctx e ++ post) :
    (offs ctx pre.length e).map (slice X) = (nodesOf e).map (pp 0) :=
  offs_own_text_all X e hnf ctx _ (prefix_of_eq hX)

theorem Placed.span_top_in_file {t : List Char} {k : Nat} {e e' : Expr}
    (h : Placed 0 ((PState.init t).adv k) e e') :
    e'.span.line = 1 + (t.take k).count '\n' ∧
    e'.span.cs = 1 + bytesLen (Parse.Pos.lastLine (t.take k)) := by
  rw [h.span_top_start.1, h.span_top_start.2]
  exact init_adv_position t k

/-- **Every span points at its construct, in a file**: when the printed form of a normal-form tree
`e` stands in a file `t` after the text `pre` (and is followed by something that ends an expression),
`fallback_expr`, started there, returns `e` up to spans, and, node by node in preorder, the span of
each node starts at the line (1 + line feeds before) and byte column (1 + bytes since the last line
feed) of the offset in `t` of the first character of that node's own text — `offs` lists these
offsets, and the characters of `t` between the two offsets of a node are the printed form of that
node. -/
theorem fallback_spans_in_file (pre : List Char) (e : Expr) (hnf : NF e) (rest : List Char)
    (hrest : Follows rest) (t : List Char) (ht : t = pre ++ pp 0 e ++ rest)
    (fuel : Nat) (hfuel : fuelNeeded e ≤ fuel) :
    ∃ e', fallback fuel ((PState.init t).adv pre.length) =
        some ((PState.init t).adv (pre.length + (pp 0 e).length), e') ∧
      e'.eraseSpans = e.eraseSpans ∧
      spansOf e' = (offs 0 pre.length e).map (spanAt (PState.init t)) ∧
      (offs 0 pre.length e).map (slice t) = (nodesOf e).map (pp 0) ∧
      ∀ sp ∈ spansOf e', ∃ ab ∈ offs 0 pre.length e,
        sp.line = 1 + (t.take ab.1).count '\n' ∧
        sp.cs = 1 + bytesLen (Parse.Pos.lastLine (t.take ab.1)) := by
  have hs : ((PState.init t).adv pre.length).rest = pp 0 e ++ rest := by
    apply adv_rest_append
    simp [PState.init, ht, List.append_assoc]
  obtain ⟨e', h1, h2⟩ := fallback_spans e hnf rest hrest _ hs fuel hfuel
  have h3 := placed_offs_all e 0 pre.length (PState.init t) e' h2
  refine ⟨e', by rw [h1, adv_add'], h2.eraseSpans, h3, offs_own_text t e hnf 0 pre rest ht, ?_⟩
  intro sp hsp
  rw [h3, List.mem_map] at hsp
  obtain ⟨ab, hab, rfl⟩ := hsp
  exact ⟨ab, hab, spanAt_init t ab⟩

/-! ### examples: the theorem is not vacuous; what the spans cover, on concrete texts -/

namespace Full

/-- the text of the example with comments everywhere is parsed as the example, up to spans -/
example : ∃ s' e', fallback 40 (PState.init
      "a\n# note\n  \"d\" # two\n(# in\nb | c.\n)\n# note\n  \"x\" # two\n[# in\n--o=<V>\n] ...".toList) =
      some (s', e') ∧ e'.eraseSpans = exE.eraseSpans := by
  have h := fallback_roundtrip_full_layout exE exE_nf exLay exLay_adm [] Follows_nil
    (PState.init (ppL' exLay 0 exE)) (by simp [PState.init]) 40 (by decide)
  rw [ppL'_exLay_exE] at h
  obtain ⟨e', h1, h2⟩ := h
  exact ⟨_, e', h1, h2⟩

/-- the example of `Proofs/LadderFullLayout.lean` (comments and line feeds at every position): the tree the
parser returns is laid out in the text -/
example : ∃ s' e', fallback 40 (PState.init (ppL' exLay 0 exE)) = some (s', e') ∧
    PlacedL' exLay 0 (PState.init (ppL' exLay 0 exE)) exE e' := by
  obtain ⟨e', h1, h2⟩ := fallback_spans_full_layout exE exE_nf exLay exLay_adm [] Follows_nil
    (PState.init (ppL' exLay 0 exE)) (by simp [PState.init]) 40 (by decide)
  exact ⟨_, e', h1, h2⟩

/-- the spans of the tree read from a text, in preorder -/
def spansRead (txt : String) : Option (List Span) :=
  match fallback 40 (PState.init txt.toList) with
  | some (_, e) => some (spansOf e)
  | none => none

set_option maxRecDepth 100000 in
/-- a literal with its description: one node, from the literal to the closing `"` -/
example : spansRead "a \"d\"" = some [⟨1, 1, 6⟩] := by decide +kernel

set_option maxRecDepth 100000 in
/-- a description distributed over a group: the `.dd` node starts at the parenthesis (column 1) and ends after
the closing `"`; the `.alt` node inside starts after `(` and the blank behind it and ends before the blank in
front of `)` -/
example : spansRead "( a | b ) \"d\" x" =
    some [⟨1, 1, 16⟩, ⟨1, 1, 14⟩, ⟨1, 3, 8⟩, ⟨1, 3, 4⟩, ⟨1, 7, 8⟩, ⟨1, 15, 16⟩] := by decide +kernel

set_option maxRecDepth 100000 in
/-- a postfix `...` after a group and a blank: the `.many1` node starts at the parenthesis and ends after the
dots, the `.seq` node inside does not contain the parentheses -/
example : spansRead "(a b) ..." = some [⟨1, 1, 10⟩, ⟨1, 2, 5⟩, ⟨1, 2, 3⟩, ⟨1, 4, 5⟩] := by decide +kernel

set_option maxRecDepth 100000 in
/-- a word: the `.sub` node and the `.seq` node under it carry the same span, the factors follow directly -/
example : spansRead "--o=<V>" = some [⟨1, 1, 8⟩, ⟨1, 1, 8⟩, ⟨1, 1, 5⟩, ⟨1, 5, 8⟩] := by decide +kernel

set_option maxRecDepth 100000 in
/-- a list node ends with its last child: no layout before the `||` is part of the `.seq` node -/
example : spansRead "a b  || c" =
    some [⟨1, 1, 10⟩, ⟨1, 1, 4⟩, ⟨1, 1, 2⟩, ⟨1, 3, 4⟩, ⟨1, 9, 10⟩] := by decide +kernel

end Full

end Complgen.Parse
