/-
C13: the position bookkeeping of the parser model: the state after `n` characters in closed form (`adv_eq`:
what is left, the line, the byte column), and what follows from it for the location of a token.
-/
import Complgen.Model.Parse
namespace Complgen.Parse.Pos

theorem adv_of_rest_nil (s : PState) (h : s.rest = []) (n : Nat) : s.adv n = s := by
  obtain ⟨r, l, c⟩ := s
  simp only at h; subst h
  cases n <;> simp [PState.adv]

theorem adv_add (s : PState) (m n : Nat) : (s.adv m).adv n = s.adv (m + n) := by
  induction m generalizing s with
  | zero => simp [PState.adv]
  | succ m ih =>
    obtain ⟨rest, l, c⟩ := s
    cases rest with
    | nil => simp [adv_of_rest_nil ⟨[], l, c⟩ rfl]
    | cons ch cs =>
      have h : m + 1 + n = (m + n) + 1 := by omega
      rw [h]
      simp only [PState.adv]
      split <;> exact ih _

theorem fromRange_start (before after : PState) :
    (fromRange before after).line = before.line ∧ (fromRange before after).cs = before.col := by
  simp [fromRange]

theorem fromMachine_start (s : PState) : (fromMachine s).line = s.line ∧ (fromMachine s).cs = s.col := by
  simp [fromMachine]

def lastLine : List Char → List Char
  | [] => []
  | c :: cs => if '\n' ∈ cs then lastLine cs else if c = '\n' then cs else c :: cs

theorem lastLine_of_not_mem : ∀ l : List Char, '\n' ∉ l → lastLine l = l
  | [], _ => rfl
  | c :: cs, h => by
    have hc : c ≠ '\n' := fun e => h (by simp [e])
    have hcs : '\n' ∉ cs := fun e => h (by simp [e])
    simp [lastLine, hcs, hc]

theorem bytesLen_cons (c : Char) (cs : List Char) : bytesLen (c :: cs) = c.utf8Size + bytesLen cs := by
  have hf : ∀ (l : List Char) (a : Nat), List.foldl (fun n c => n + c.utf8Size) a l = a + List.foldl (fun n c => n + c.utf8Size) 0 l := by
    intro l
    induction l with
    | nil => intro a; simp
    | cons x xs ihx => intro a; simp only [List.foldl_cons, Nat.zero_add]; rw [ihx (a + x.utf8Size), ihx x.utf8Size]; omega
  simp only [bytesLen, List.foldl_cons, Nat.zero_add]
  exact hf cs c.utf8Size

theorem adv_eq : ∀ (n : Nat) (s : PState), s.adv n =
    ⟨s.rest.drop n, s.line + (s.rest.take n).count '\n',
      (if '\n' ∈ s.rest.take n then 1 else s.col) + bytesLen (lastLine (s.rest.take n))⟩
  | 0, s => by simp [PState.adv, bytesLen, lastLine]
  | n + 1, ⟨[], l, c⟩ => by simp [PState.adv, bytesLen, lastLine]
  | n + 1, ⟨ch :: cs, l, c⟩ => by
    by_cases hc : ch = '\n'
    · subst hc
      simp only [PState.adv, if_true, adv_eq n, List.drop_succ_cons, List.take_succ_cons,
        List.count_cons_self, List.mem_cons, true_or, if_true, PState.mk.injEq, true_and]
      refine ⟨by omega, ?_⟩
      by_cases hcs : '\n' ∈ cs.take n
      · simp [hcs, lastLine]
      · simp [hcs, lastLine, lastLine_of_not_mem _ hcs]
    · have hne : ¬ ('\n' = ch) := fun e => hc e.symm
      simp only [PState.adv, hc, if_false, adv_eq n, List.drop_succ_cons, List.take_succ_cons,
        List.mem_cons, hne, false_or, PState.mk.injEq, true_and]
      refine ⟨by simp [hc], ?_⟩
      by_cases hcs : '\n' ∈ cs.take n
      · simp [hcs, lastLine]
      · simp only [hcs, if_false, lastLine, hc, bytesLen_cons, lastLine_of_not_mem _ hcs]
        omega

theorem adv_rest (s : PState) (n : Nat) : (s.adv n).rest = s.rest.drop n := by rw [adv_eq]

theorem adv_line_mono (s : PState) (n : Nat) : s.line ≤ (s.adv n).line := by
  rw [adv_eq]; exact Nat.le_add_right _ _

/-- **Location arithmetic**: everything that precedes a token decides its location, and nothing else does:
the line feeds of `w` give the line, the bytes after the last of them the column. -/
theorem adv_position (w : List Char) : ∀ (s : PState) (rest : List Char), s.rest = w ++ rest →
    (s.adv w.length).line = s.line + w.count '\n' ∧
    (s.adv w.length).col = (if '\n' ∈ w then 1 else s.col) + bytesLen (lastLine w) := by
  intro s rest hs
  rw [adv_eq, hs, List.take_left]; exact ⟨rfl, rfl⟩

theorem adv_col_same_line (s : PState) (w : List Char) (rest : List Char) (hs : s.rest = w ++ rest)
    (hw : '\n' ∉ w) : (s.adv w.length).line = s.line ∧ (s.adv w.length).col = s.col + bytesLen w := by
  have := adv_position w s rest hs
  rwa [List.count_eq_zero_of_not_mem hw, if_neg hw, lastLine_of_not_mem w hw] at this

theorem init_position (t w rest : List Char) (ht : t = w ++ rest) :
    ((PState.init t).adv w.length).line = 1 + w.count '\n' ∧
    ((PState.init t).adv w.length).col = 1 + bytesLen (lastLine w) := by
  have := adv_position w (PState.init t) rest (by simp [PState.init, ht])
  refine ⟨this.1, ?_⟩
  rw [this.2]
  by_cases h : '\n' ∈ w <;> simp [h, PState.init]

end Complgen.Parse.Pos

namespace Complgen.Parse

theorem init_adv_position (t : List Char) (k : Nat) :
    ((PState.init t).adv k).line = 1 + (t.take k).count '\n' ∧
    ((PState.init t).adv k).col = 1 + bytesLen (Pos.lastLine (t.take k)) := by
  rw [Pos.adv_eq]
  by_cases h : '\n' ∈ t.take k <;> simp [h, PState.init]

end Complgen.Parse
