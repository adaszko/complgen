/-
C05 / C13 (operator ladder): what the proofs about the expression ladder of `Model/Parse.lean`
(`unary`, `subwordSeq`, `sseod`, `sequence`, `alternative`, `fallback`) share.

The statement: `PTs L C n T R` says that the parser `L` with fuel at least `n` reads the text `T` before any
continuation of class `C`, consuming exactly `T`, and that the tree `e'` it returns from the state `s`
satisfies `R s e'` (`LTs` for the loops); `PT … E`, a definition of its own, unfolds to `PTs` with the relation
"`e'` is `E` up to spans".  The classes say what a level must not see next, directly or after blanks and
comments: `BCont`, `SCont ⊇ ACont ⊇ FCont`
(another word / `|` / `||`), `Any` (nothing required: after a bracket, a description, a postfix `...`),
`BL t`/`WL t` (after the literal `t` without description: the decoder stops, no description follows, and if
`t` ends with a dot no dot follows), `WD` (within a word: no `...` follows), `UD'` (after a word that may get a
description: a `"` may follow directly, `StopQ`), `UC` (after a word: no description either).  They forbid
`...` after blanks, not a single dot, so that words may begin with a dot (`git add .gitignore`, `<FILE>.txt`).

Blanks and comments.  `IsLayout l`: `l` is made of blanks (space, tab, CR, LF, form feed) and `#` comments,
and every comment is closed by its line feed inside `l` (`layoutOK`); this is what `multiblanks0` skips
completely whatever follows (`mb0Aux_layout`, `isLayout_iff`).  `#` is a *regular* character of literals
(`foo#bar` is one literal), so a stretch of layout that stands directly after a word must not begin with `#`
(`IsLayoutW`); after `[`, `(`, `|`, `||` the parser skips blanks first and any layout may stand.

`lift_*` carry a result one level up the ladder, `paren_reads`/`optional_reads` go from the top of the ladder
back to the bottom.  The four list levels (a word and its factors, `sequence`, `alternative`, `fallback`) are one
shape, `ListLevel`: an item, then a loop of separator and item; what is proved of it (`.cons`, `.natives` for
several items, `.lift` for a single one) is instantiated with the separator each level reads.  `asm*` derive all
seven levels (`AllLevels`: the text and the relation as functions of the level, `parenAt`/`shiftAt` for a text
that stands in parentheses at some levels) from the one an expression is read at.

Names.  The namespace `Full` holds what belongs to the larger fragment `NF'` (escaped literals, descriptions,
words by juxtaposition; `Proofs/LadderFull.lean`); here that is everything stated with `dots3` or with the classes
`WD`, `UD'`, `UC`, `BL`, `WL`, hence most of the ladder from the literals on.  A final `'` marks that fragment's
version of a thing of the smaller fragment `NF`: `NF'`, `pp'`, `Layout'`, `ppL'`.  `L` in `ppL`, `ppL'`,
`PlacedL'`, `offsL'` means "under a layout"; in `PlacedL`, `offsL` (`Proofs/SpansFull.lean`), as in `ExprL`, it
means "of a list" — the list forms of `PlacedL'`, `offsL'` are `PlacedListL'`, `offsListL'`.
-/
import Complgen.Proofs.Lexer
namespace Complgen.Parse

theorem adv_rest_append (s : PState) (T r : List Char) (h : s.rest = T ++ r) :
    (s.adv T.length).rest = r := by
  rw [adv_rest', h]; simp

def afterBlanks (l : List Char) : List Char := l.drop (mb0Aux false l)

theorem mb0_eq (s : PState) : mb0 s = s.adv (mb0Aux false s.rest) := rfl

theorem mb0_rest (s : PState) : (mb0 s).rest = afterBlanks s.rest := by
  rw [mb0_eq, adv_rest']; rfl

/-- a character at which `multiblanks0` stops -/
def notBlank (c : Char) : Bool := !(isSpace c || c = '\x0c' || c = '#')

theorem mb0Aux_notBlank (c : Char) (r : List Char) (h : notBlank c = true) : mb0Aux false (c :: r) = 0 := by
  simp only [notBlank, Bool.not_eq_true', Bool.or_eq_false_iff, decide_eq_false_iff_not] at h
  simp [mb0Aux, h.1.1, h.1.2, h.2]

theorem afterBlanks_notBlank (c : Char) (r : List Char) (h : notBlank c = true) :
    afterBlanks (c :: r) = c :: r := by
  simp [afterBlanks, mb0Aux_notBlank c r h]

theorem afterBlanks_nil : afterBlanks [] = [] := rfl

theorem mb0Aux_space (r : List Char) : mb0Aux false (' ' :: r) = 1 + mb0Aux false r := by
  simp [mb0Aux, isSpace]

theorem afterBlanks_space (r : List Char) : afterBlanks (' ' :: r) = afterBlanks r := by
  simp [afterBlanks, mb0Aux_space, Nat.add_comm 1]

theorem mb0_notBlank (s : PState) (c : Char) (r : List Char) (hs : s.rest = c :: r) (h : notBlank c = true) :
    mb0 s = s := by
  rw [mb0_eq, hs, mb0Aux_notBlank c r h, adv_zero]

theorem mb0_nil (s : PState) (hs : s.rest = []) : mb0 s = s := by
  rw [mb0_eq, hs]; simp [mb0Aux, adv_zero]

/-- the alternatives of `unary_expr` before the postfix `...` -/
def baseP (fuel : Nat) (s : PState) : Option (PState × Expr) :=
  match nonterm s with
  | some (s', n, sp) => some (s', .nonterm n 0 sp)
  | none =>
  match optional fuel s with
  | some r => some r
  | none =>
  match parenthesized fuel s with
  | some r => some r
  | none =>
  match tripleBracketCommand s with
  | some (s', c) => some (s', .cmd c false 0 (fromRange s s'))
  | none =>
  match terminal s with
  | some (s', t) =>
    let (s'', d) := optDescription s'
    some (s'', .term t d 0 (fromRange s s''))
  | none => none

theorem unary_succ (fuel : Nat) (s : PState) : unary (fuel + 1) s =
    match baseP fuel s with
    | none => none
    | some (s', e) =>
      match many1Tag s' with
      | some s'' => some (s'', .many1 e (fromRange s s''))
      | none => some (s', e) := by
  rw [unary]; rfl

theorem optional_succ (fuel : Nat) (s : PState) : optional (fuel + 1) s =
    match char? '[' s with
    | none => none
    | some s1 =>
      match fallback fuel (mb0 s1) with
      | none => none
      | some (s2, e) =>
        match char? ']' (mb0 s2) with
        | none => none
        | some s3 => some (s3, .opt e (fromRange s s3)) := by
  rw [optional]; rfl

theorem parenthesized_succ (fuel : Nat) (s : PState) : parenthesized (fuel + 1) s =
    match char? '(' s with
    | none => none
    | some s1 =>
      match fallback fuel (mb0 s1) with
      | none => none
      | some (s2, e) =>
        match char? ')' (mb0 s2) with
        | none => none
        | some s3 => some (s3, e) := by
  rw [parenthesized]; rfl

theorem subwordLoop_succ (fuel : Nat) (s : PState) (acc : List Expr) : subwordLoop (fuel + 1) s acc =
    match unary fuel s with
    | some (s', e) => subwordLoop fuel s' (acc ++ [e])
    | none => (s, acc) := by
  rw [subwordLoop]; rfl

theorem subwordSeq_succ (fuel : Nat) (s : PState) : subwordSeq (fuel + 1) s =
    match unary fuel s with
    | none => none
    | some (s1, left) =>
      let (s2, factors) := subwordLoop fuel s1 [left]
      match factors with
      | [e] => some (s2, e)
      | _ =>
        let sp := fromRange s s2
        some (s2, .sub (.seq (ExprL.ofList (factors.map Check.flatten)) sp) 0 sp) := by
  rw [subwordSeq]; rfl

theorem sseod_succ (fuel : Nat) (s : PState) : sseod (fuel + 1) s =
    match subwordSeq fuel s with
    | none => none
    | some (s1, e) =>
      match optDescription s1 with
      | (s2, some d) => some (s2, .dd e d (fromRange s s2))
      | (_, none) => some (s1, e) := by
  rw [sseod]; rfl

theorem sequenceLoop_succ (fuel : Nat) (s : PState) (acc : List Expr) : sequenceLoop (fuel + 1) s acc =
    match mb1 s with
    | none => (s, acc)
    | some s1 =>
      match sseod fuel s1 with
      | some (s2, e) => sequenceLoop fuel s2 (acc ++ [e])
      | none => (s, acc) := by
  rw [sequenceLoop]; rfl

theorem sequence_succ (fuel : Nat) (s : PState) : sequence (fuel + 1) s =
    match sseod fuel s with
    | none => none
    | some (s1, left) =>
      let (s2, factors) := sequenceLoop fuel s1 [left]
      match factors with
      | [e] => some (s2, e)
      | _ => some (s2, .seq (ExprL.ofList factors) (fromRange s s2)) := by
  rw [sequence]; rfl

theorem alternativeLoop_succ (fuel : Nat) (s : PState) (acc : List Expr) : alternativeLoop (fuel + 1) s acc =
    match char? '|' (mb0 s) with
    | none => (s, acc)
    | some s1 =>
      match sequence fuel (mb0 s1) with
      | some (s2, e) => alternativeLoop fuel s2 (acc ++ [e])
      | none => (s, acc) := by
  rw [alternativeLoop]; rfl

theorem alternative_succ (fuel : Nat) (s : PState) : alternative (fuel + 1) s =
    match sequence fuel s with
    | none => none
    | some (s1, left) =>
      let (s2, elems) := alternativeLoop fuel s1 [left]
      match elems with
      | [e] => some (s2, e)
      | _ => some (s2, .alt (ExprL.ofList elems) (fromRange s s2)) := by
  rw [alternative]; rfl

theorem fallbackLoop_succ (fuel : Nat) (s : PState) (acc : List Expr) : fallbackLoop (fuel + 1) s acc =
    match tag? "||" (mb0 s) with
    | none => (s, acc)
    | some s1 =>
      match alternative fuel (mb0 s1) with
      | some (s2, e) => fallbackLoop fuel s2 (acc ++ [e])
      | none => (s, acc) := by
  rw [fallbackLoop]; rfl

theorem fallback_succ (fuel : Nat) (s : PState) : fallback (fuel + 1) s =
    match alternative fuel s with
    | none => none
    | some (s1, left) =>
      let (s2, fbs) := fallbackLoop fuel s1 [left]
      match fbs with
      | [e] => some (s2, e)
      | _ => some (s2, .fb (ExprL.ofList fbs) (fromRange s s2)) := by
  rw [fallback]; rfl

theorem unary_zero (s : PState) : unary 0 s = none := by rw [unary]

theorem optional_zero (s : PState) : optional 0 s = none := by rw [optional]

theorem parenthesized_zero (s : PState) : parenthesized 0 s = none := by rw [parenthesized]

theorem subwordLoop_zero (s : PState) (acc : List Expr) : subwordLoop 0 s acc = (s, acc) := by rw [subwordLoop]

theorem subwordSeq_zero (s : PState) : subwordSeq 0 s = none := by rw [subwordSeq]

theorem sseod_zero (s : PState) : sseod 0 s = none := by rw [sseod]

theorem sequenceLoop_zero (s : PState) (acc : List Expr) : sequenceLoop 0 s acc = (s, acc) := by rw [sequenceLoop]

theorem sequence_zero (s : PState) : sequence 0 s = none := by rw [sequence]

theorem alternativeLoop_zero (s : PState) (acc : List Expr) : alternativeLoop 0 s acc = (s, acc) := by rw [alternativeLoop]

theorem alternative_zero (s : PState) : alternative 0 s = none := by rw [alternative]

theorem fallbackLoop_zero (s : PState) (acc : List Expr) : fallbackLoop 0 s acc = (s, acc) := by rw [fallbackLoop]

theorem fallback_zero (s : PState) : fallback 0 s = none := by rw [fallback]

/-- a character that can neither continue nor start a unary expression -/
def stopCh (c : Char) : Bool :=
  !isRegular c && c ≠ '\\' && c ≠ '.' && c ≠ '<' && c ≠ '[' && c ≠ '(' && c ≠ '{' && c ≠ '"'

def StopHead (l : List Char) : Prop := l = [] ∨ ∃ c r, l = c :: r ∧ stopCh c = true

/-- after a sequence: no word follows, directly or after blanks -/
def SCont (rest : List Char) : Prop := StopHead rest ∧ StopHead (afterBlanks rest)

/-- after an alternative: moreover no single `|` follows -/
def ACont (rest : List Char) : Prop := SCont rest ∧ ∀ r, afterBlanks rest = '|' :: r → ∃ r', r = '|' :: r'

/-- after a whole expression: moreover no `|` at all -/
def FCont (rest : List Char) : Prop := SCont rest ∧ ∀ r, afterBlanks rest ≠ '|' :: r

/-- after the operand of a postfix `...` (or any base expression): a literal ends here and no
description follows -/
def BCont (rest : List Char) : Prop := dec' rest = some ([], 0) ∧ ∀ r, afterBlanks rest ≠ '"' :: r

theorem stopCh_spec {c : Char} (h : stopCh c = true) :
    isRegular c = false ∧ c ≠ '\\' ∧ c ≠ '.' ∧ c ≠ '<' ∧ c ≠ '[' ∧ c ≠ '(' ∧ c ≠ '{' ∧ c ≠ '"' := by
  simpa [stopCh, and_assoc] using h

theorem StopHead.ne {l : List Char} (h : StopHead l) (x : Char) (hx : stopCh x = false) :
    ∀ r, l ≠ x :: r := by
  intro r e
  rcases h with rfl | ⟨c, r', rfl, hc⟩
  · cases e
  · cases e; rw [hc] at hx; cases hx

theorem StopHead.dec {l : List Char} (h : StopHead l) : dec' l = some ([], 0) := by
  rcases h with rfl | ⟨c, r, rfl, hc⟩
  · rfl
  · obtain ⟨h1, h2, h3, _⟩ := stopCh_spec hc
    exact dec'_other c r h1 h2 h3

theorem ACont.s {rest : List Char} (h : ACont rest) : SCont rest := h.1

theorem FCont.s {rest : List Char} (h : FCont rest) : SCont rest := h.1

theorem FCont.a {rest : List Char} (h : FCont rest) : ACont rest :=
  ⟨h.1, fun r e => absurd e (h.2 r)⟩

theorem dots_BCont (rest : List Char) : BCont ('.' :: '.' :: '.' :: rest) := by
  constructor
  · rw [dec'_dot]
    have : dotRun ('.' :: '.' :: '.' :: rest) ≥ 3 := by
      rw [dotRun_cons_dot, dotRun_cons_dot, dotRun_cons_dot]; omega
    simp [this]
  · intro r e
    rw [afterBlanks_notBlank _ _ (by decide +kernel)] at e
    cases e

theorem char?_none (x : Char) (s : PState) (h : ∀ r, s.rest ≠ x :: r) : char? x s = none := by
  unfold char?
  cases hr : s.rest with
  | nil => rfl
  | cons c r =>
    by_cases hc : c = x
    · subst hc; exact absurd hr (h r)
    · simp [hc]

theorem char?_some (x : Char) (s : PState) (r : List Char) (h : s.rest = x :: r) :
    char? x s = some (s.adv 1) := by
  unfold char?; rw [h]; simp

theorem nonterm_none (s : PState) (h : ∀ r, s.rest ≠ '<' :: r) : nonterm s = none := by
  unfold nonterm; rw [char?_none _ s h]; rfl

theorem optional_none (f : Nat) (s : PState) (h : ∀ r, s.rest ≠ '[' :: r) : optional f s = none := by
  cases f with
  | zero => exact optional_zero s
  | succ f => rw [optional_succ, char?_none _ s h]

theorem parenthesized_none (f : Nat) (s : PState) (h : ∀ r, s.rest ≠ '(' :: r) : parenthesized f s = none := by
  cases f with
  | zero => exact parenthesized_zero s
  | succ f => rw [parenthesized_succ, char?_none _ s h]

/-- `tag?` in terms of the characters `cs` of the tag; the instances give `cs` as a list (`ht` is `rfl`) so
that no proof has to compute with the string literal -/
theorem tag?_eq {t : String} {cs : List Char} (ht : t.toList = cs) (s : PState) :
    tag? t s = if cs.isPrefixOf s.rest then some (s.adv cs.length) else none := by
  subst ht; rw [String.length_toList]; rfl

theorem tag?_some {t : String} {cs : List Char} (ht : t.toList = cs) (s : PState) (r : List Char)
    (hs : s.rest = cs ++ r) : tag? t s = some (s.adv cs.length) := by
  rw [tag?_eq ht, hs, List.isPrefixOf_iff_prefix.mpr (List.prefix_append cs r), if_pos rfl]

theorem isPrefixOf_head_ne {x : Char} {l : List Char} (h : ∀ r, l ≠ x :: r) (t : List Char) :
    (x :: t).isPrefixOf l = false := by
  cases l with
  | nil => rfl
  | cons c r =>
    have : (x == c) = false := by simpa using fun e => h r (by rw [e])
    simp [List.isPrefixOf, this]

theorem tag?_none {t : String} {x : Char} {cs : List Char} (ht : t.toList = x :: cs) (s : PState)
    (h : ∀ r, s.rest ≠ x :: r) : tag? t s = none := by
  rw [tag?_eq ht, isPrefixOf_head_ne h]; rfl

theorem triple_none (s : PState) (h : ∀ r, s.rest ≠ '{' :: r) : tripleBracketCommand s = none := by
  unfold tripleBracketCommand
  rw [tag?_none (cs := ['{', '{']) rfl s h]
  rfl

theorem terminal_none (s : PState) (h : dec' s.rest = some ([], 0)) : terminal s = none := by
  rw [terminal_eq_dec, h]; rfl

theorem baseP_none (f : Nat) (s : PState) (h : StopHead s.rest) : baseP f s = none := by
  unfold baseP
  rw [nonterm_none s (h.ne _ (by decide +kernel)), optional_none f s (h.ne _ (by decide +kernel)),
    parenthesized_none f s (h.ne _ (by decide +kernel)), triple_none s (h.ne _ (by decide +kernel)),
    terminal_none s h.dec]

theorem unary_none (f : Nat) (s : PState) (h : StopHead s.rest) : unary f s = none := by
  cases f with
  | zero => exact unary_zero s
  | succ f => rw [unary_succ, baseP_none f s h]

theorem subwordSeq_none (f : Nat) (s : PState) (h : StopHead s.rest) : subwordSeq f s = none := by
  cases f with
  | zero => exact subwordSeq_zero s
  | succ f => rw [subwordSeq_succ, unary_none f s h]

theorem sseod_none (f : Nat) (s : PState) (h : StopHead s.rest) : sseod f s = none := by
  cases f with
  | zero => exact sseod_zero s
  | succ f => rw [sseod_succ, subwordSeq_none f s h]

theorem sequence_none (f : Nat) (s : PState) (h : StopHead s.rest) : sequence f s = none := by
  cases f with
  | zero => exact sequence_zero s
  | succ f => rw [sequence_succ, sseod_none f s h]

theorem mb1_eq (s : PState) : mb1 s =
    if mb0Aux false s.rest = 0 then none else some (s.adv (mb0Aux false s.rest)) := rfl

theorem sequenceLoop_stop (f : Nat) (s : PState) (acc : List Expr) (h : StopHead (afterBlanks s.rest)) :
    sequenceLoop f s acc = (s, acc) := by
  cases f with
  | zero => exact sequenceLoop_zero s acc
  | succ f =>
    rw [sequenceLoop_succ, mb1_eq]
    by_cases hz : mb0Aux false s.rest = 0
    · simp [hz]
    · simp only [hz, if_false]
      rw [sseod_none f _ (by rw [adv_rest']; exact h)]

theorem alternativeLoop_stop (f : Nat) (s : PState) (acc : List Expr) (h : ACont s.rest) :
    alternativeLoop f s acc = (s, acc) := by
  cases f with
  | zero => exact alternativeLoop_zero s acc
  | succ f =>
    rw [alternativeLoop_succ]
    cases hc : char? '|' (mb0 s) with
    | none => rfl
    | some s1 =>
      simp only
      have hmr := mb0_rest s
      cases hab : afterBlanks s.rest with
      | nil =>
        rw [char?_none _ _ (by rw [hmr, hab]; intro r e; cases e)] at hc; cases hc
      | cons c r =>
        by_cases hcb : c = '|'
        · subst hcb
          obtain ⟨r', rfl⟩ := h.2 r hab
          rw [char?_some '|' (mb0 s) _ (by rw [hmr, hab])] at hc
          cases hc
          have hr1 : ((mb0 s).adv 1).rest = '|' :: r' := by rw [adv_rest', hmr, hab]; rfl
          rw [mb0_notBlank _ _ _ hr1 (by decide +kernel),
            sequence_none f _ (by rw [hr1]; exact .inr ⟨'|', r', rfl, by decide⟩)]
        · rw [char?_none _ _ (by rw [hmr, hab]; intro r e; cases e; exact hcb rfl)] at hc; cases hc

theorem fallbackLoop_stop (f : Nat) (s : PState) (acc : List Expr) (h : FCont s.rest) :
    fallbackLoop f s acc = (s, acc) := by
  cases f with
  | zero => exact fallbackLoop_zero s acc
  | succ f =>
    rw [fallbackLoop_succ, tag?_none (cs := ['|']) rfl _ (by rw [mb0_rest]; exact h.2)]

theorem optDescription_none (s : PState) (h : ∀ r, afterBlanks s.rest ≠ '"' :: r) :
    optDescription s = (s, none) := by
  unfold optDescription description
  rw [char?_none '"' (mb0 s) (by rw [mb0_rest]; exact h)]
  rfl

theorem FCont_close (c : Char) (rest : List Char) (h1 : stopCh c = true) (h2 : notBlank c = true)
    (h3 : c ≠ '|') : FCont (c :: rest) := by
  have hsh : StopHead (c :: rest) := .inr ⟨c, rest, rfl, h1⟩
  refine ⟨⟨hsh, ?_⟩, ?_⟩
  · rw [afterBlanks_notBlank c rest h2]; exact hsh
  · rw [afterBlanks_notBlank c rest h2]; intro r e; cases e; exact h3 rfl

/-- what may follow the printed expression: directly and after blanks and comments, the end of the
input or a character other than `|` that can neither continue nor start an expression -/
def Follows (rest : List Char) : Prop := FCont rest

theorem Follows_nil : Follows [] :=
  ⟨⟨.inl rfl, .inl rfl⟩, fun r e => by cases e⟩

theorem Follows_semicolon (r : List Char) : Follows (';' :: r) :=
  FCont_close _ _ (by decide +kernel) (by decide +kernel) (by decide +kernel)

theorem Follows_rparen (r : List Char) : Follows (')' :: r) :=
  FCont_close _ _ (by decide +kernel) (by decide +kernel) (by decide +kernel)

theorem Follows_rbracket (r : List Char) : Follows (']' :: r) :=
  FCont_close _ _ (by decide +kernel) (by decide +kernel) (by decide +kernel)

theorem Follows_blanks (rest : List Char) (h1 : StopHead rest)
    (h2 : afterBlanks rest = [] ∨ ∃ c r, afterBlanks rest = c :: r ∧ (c = ';' ∨ c = ')' ∨ c = ']')) :
    Follows rest := by
  rcases h2 with h2 | ⟨c, r, h2, hc⟩
  · exact ⟨⟨h1, .inl h2⟩, fun r e => by rw [h2] at e; cases e⟩
  · have : stopCh c = true ∧ c ≠ '|' := by
      rcases hc with rfl | rfl | rfl <;> exact ⟨by decide, by decide⟩
    exact ⟨⟨h1, .inr ⟨c, r, h2, this.1⟩⟩, fun r' e => by rw [h2] at e; cases e; exact this.2 rfl⟩

/-- a blank: what `multiblanks0` skips outside comments -/
def blankCh (c : Char) : Bool := isSpace c || c = '\x0c'

/-- blanks and comments only, and no comment is left open at the end; the flag says we are inside a
comment (the same automaton as `mb0Aux`) -/
def layoutOK : Bool → List Char → Bool
  | b, [] => !b
  | true, c :: cs => if c = '\n' then layoutOK false cs else layoutOK true cs
  | false, c :: cs =>
    if isSpace c || c = '\x0c' then layoutOK false cs
    else if c = '#' then layoutOK true cs
    else false

def IsLayout (l : List Char) : Prop := layoutOK false l = true

instance (l : List Char) : Decidable (IsLayout l) := inferInstanceAs (Decidable (layoutOK false l = true))

/-- a stretch of layout that may stand directly after a word: it does not begin with `#`
(`#` is a regular character of literals) -/
def IsLayoutW (l : List Char) : Prop := IsLayout l ∧ ∀ r, l ≠ '#' :: r

theorem mb0Aux_layout : ∀ (l : List Char) (b : Bool) (r : List Char), layoutOK b l = true →
    mb0Aux b (l ++ r) = l.length + mb0Aux false r
  | [], b, r, h => by
    cases b
    · simp
    · simp [layoutOK] at h
  | c :: cs, true, r, h => by
    simp only [layoutOK] at h
    simp only [List.cons_append, mb0Aux, List.length_cons]
    by_cases hc : c = '\n'
    · simp only [hc, if_true] at h ⊢
      rw [mb0Aux_layout cs false r h]; omega
    · simp only [hc, if_false] at h ⊢
      rw [mb0Aux_layout cs true r h]; omega
  | c :: cs, false, r, h => by
    simp only [layoutOK] at h
    simp only [List.cons_append, mb0Aux, List.length_cons]
    cases hb : (isSpace c || decide (c = '\x0c')) with
    | true =>
      simp only [hb, if_true] at h ⊢
      rw [mb0Aux_layout cs false r h]; omega
    | false =>
      simp only [hb, Bool.false_eq_true, if_false] at h ⊢
      by_cases hc : c = '#'
      · simp only [hc, if_true] at h ⊢
        rw [mb0Aux_layout cs true r h]; omega
      · simp [hc] at h

theorem mb0Aux_isLayout (l : List Char) (h : IsLayout l) : mb0Aux false l = l.length := by
  have := mb0Aux_layout l false [] h
  simpa [mb0Aux] using this

def NBHead (r : List Char) : Prop := mb0Aux false r = 0

theorem NBHead_nil : NBHead [] := rfl

theorem NBHead_cons (c : Char) (r : List Char) (h : notBlank c = true) : NBHead (c :: r) :=
  mb0Aux_notBlank c r h

theorem mb0Aux_layout_nb (l r : List Char) (hl : IsLayout l) (hr : NBHead r) :
    mb0Aux false (l ++ r) = l.length := by
  rw [mb0Aux_layout l false r hl, hr]; rfl

theorem afterBlanks_layout (l r : List Char) (hl : IsLayout l) : afterBlanks (l ++ r) = afterBlanks r := by
  unfold afterBlanks
  rw [mb0Aux_layout l false r hl, ← List.drop_drop]
  simp

theorem afterBlanks_nb (r : List Char) (h : NBHead r) : afterBlanks r = r := by
  unfold afterBlanks; rw [h]; rfl

theorem afterBlanks_layout_nb (l r : List Char) (hl : IsLayout l) (hr : NBHead r) :
    afterBlanks (l ++ r) = r := by
  rw [afterBlanks_layout l r hl, afterBlanks_nb r hr]

theorem mb0_layout (s : PState) (l r : List Char) (hl : IsLayout l) (hr : NBHead r)
    (hs : s.rest = l ++ r) : mb0 s = s.adv l.length := by
  rw [mb0_eq, hs, mb0Aux_layout_nb l r hl hr]

theorem mb1_layout (s : PState) (l r : List Char) (hl : IsLayout l) (hr : NBHead r)
    (hs : s.rest = l ++ r) : mb1 s = if l = [] then none else some (s.adv l.length) := by
  rw [mb1_eq, hs, mb0Aux_layout_nb l r hl hr]
  cases l with
  | nil => rfl
  | cons c cs => simp

theorem mb1_layout_some (s : PState) (l r : List Char) (hl : IsLayout l) (hne : l ≠ []) (hr : NBHead r)
    (hs : s.rest = l ++ r) : mb1 s = some (s.adv l.length) := by
  rw [mb1_layout s l r hl hr hs]; simp [hne]

theorem blank_stop {c : Char} (h : blankCh c = true) : stopCh c = true := by
  simp only [blankCh, isSpace, Bool.or_eq_true, decide_eq_true_eq] at h
  rcases h with (((rfl | rfl) | rfl) | rfl) | rfl <;> decide

theorem blank_not_notBlank {c : Char} (h : blankCh c = true) : notBlank c = false := by
  simp only [blankCh, isSpace, Bool.or_eq_true, decide_eq_true_eq] at h
  rcases h with (((rfl | rfl) | rfl) | rfl) | rfl <;> decide

theorem IsLayoutW.head {c : Char} {cs : List Char} (h : IsLayoutW (c :: cs)) : blankCh c = true := by
  have h1 := h.1
  unfold IsLayout at h1
  simp only [layoutOK] at h1
  cases hb : (isSpace c || decide (c = '\x0c')) with
  | true => exact hb
  | false =>
    simp only [hb, Bool.false_eq_true, if_false] at h1
    by_cases hc : c = '#'
    · subst hc; exact absurd rfl (h.2 cs)
    · simp [hc] at h1

theorem IsLayoutW.nil : IsLayoutW [] := ⟨rfl, fun r e => by cases e⟩

theorem IsLayout.nil : IsLayout [] := rfl

theorem IsLayoutW.stop {l : List Char} (hl : IsLayoutW l) {X : List Char} (hX : StopHead X) :
    StopHead (l ++ X) := by
  cases l with
  | nil => exact hX
  | cons c cs => exact .inr ⟨c, cs ++ X, rfl, blank_stop hl.head⟩

theorem stopHead_cons (c : Char) (X : List Char) (h : stopCh c = true) : StopHead (c :: X) :=
  .inr ⟨c, X, rfl, h⟩

theorem SCont_layout_bar (l X : List Char) (hl : IsLayoutW l) : SCont (l ++ '|' :: X) := by
  refine ⟨hl.stop (stopHead_cons _ _ (by decide +kernel)), ?_⟩
  rw [afterBlanks_layout_nb l _ hl.1 (NBHead_cons _ _ (by decide +kernel))]
  exact stopHead_cons _ _ (by decide +kernel)

theorem ACont_layout_barbar (l X : List Char) (hl : IsLayoutW l) : ACont (l ++ '|' :: '|' :: X) := by
  refine ⟨SCont_layout_bar l _ hl, ?_⟩
  rw [afterBlanks_layout_nb l _ hl.1 (NBHead_cons _ _ (by decide +kernel))]
  intro r e; cases e; exact ⟨X, rfl⟩

theorem FCont_layout_close (l : List Char) (c : Char) (rest : List Char) (hl : IsLayoutW l)
    (h1 : stopCh c = true) (h2 : notBlank c = true) (h3 : c ≠ '|') : FCont (l ++ c :: rest) := by
  have hab : afterBlanks (l ++ c :: rest) = c :: rest := afterBlanks_layout_nb l _ hl.1 (NBHead_cons _ _ h2)
  refine ⟨⟨hl.stop (stopHead_cons _ _ h1), ?_⟩, ?_⟩
  · rw [hab]; exact stopHead_cons _ _ h1
  · rw [hab]; intro r e; cases e; exact h3 rfl

theorem BCont_layout_dots (l rest : List Char) (hl : IsLayoutW l) : BCont (l ++ '.' :: '.' :: '.' :: rest) := by
  constructor
  · cases l with
    | nil => exact (dots_BCont rest).1
    | cons c cs => exact StopHead.dec (.inr ⟨c, cs ++ '.' :: '.' :: '.' :: rest, rfl, blank_stop hl.head⟩)
  · intro r e
    rw [afterBlanks_layout_nb l _ hl.1 (NBHead_cons _ _ (by decide +kernel))] at e
    cases e

theorem many1Tag_layout (s : PState) (l r : List Char) (hl : IsLayout l)
    (h : s.rest = l ++ '.' :: '.' :: '.' :: r) : many1Tag s = some (s.adv (l.length + 3)) := by
  unfold many1Tag
  rw [mb0_layout s l _ hl (NBHead_cons _ _ (by decide +kernel)) h]
  have hr := adv_rest_append s l _ h
  rw [tag?_some (cs := ['.', '.', '.']) rfl _ _ hr, adv_add']
  rfl

def parenL (l1 l2 T : List Char) : List Char := '(' :: l1 ++ T ++ l2 ++ [')']

def paren (T : List Char) : List Char := '(' :: T ++ [')']

theorem mb0Aux_not_layout : ∀ (l : List Char) (b : Bool), layoutOK b l = false →
    mb0Aux b (l ++ ['x']) ≠ l.length
  | [], b, h => by
    cases b
    · simp [layoutOK] at h
    · decide
  | c :: cs, true, h => by
    simp only [layoutOK] at h
    simp only [List.cons_append, mb0Aux, List.length_cons]
    by_cases hc : c = '\n'
    · simp only [hc, if_true] at h ⊢
      have := mb0Aux_not_layout cs false h; omega
    · simp only [hc, if_false] at h ⊢
      have := mb0Aux_not_layout cs true h; omega
  | c :: cs, false, h => by
    simp only [layoutOK] at h
    simp only [List.cons_append, mb0Aux, List.length_cons]
    cases hb : (isSpace c || decide (c = '\x0c')) with
    | true =>
      simp only [hb, if_true] at h ⊢
      have := mb0Aux_not_layout cs false h; omega
    | false =>
      simp only [hb, Bool.false_eq_true, if_false] at h ⊢
      by_cases hc : c = '#'
      · simp only [hc, if_true] at h ⊢
        have := mb0Aux_not_layout cs true h; omega
      · simp only [hc, if_false]; omega

/-- `IsLayout l` says exactly that `multiblanks0` skips `l` and goes on with whatever follows as if
it started there: nothing but blanks and comments, and no comment that would swallow the next token -/
theorem isLayout_iff (l : List Char) :
    IsLayout l ↔ ∀ r, mb0Aux false (l ++ r) = l.length + mb0Aux false r := by
  constructor
  · intro h r; exact mb0Aux_layout l false r h
  · intro h
    cases hb : layoutOK false l with
    | true => exact hb
    | false =>
      have hx : mb0Aux false ['x'] = 0 := by decide +kernel
      exact absurd (by rw [h ['x'], hx]; rfl) (mb0Aux_not_layout l false hb)

/-- examples: a comment closed by its line feed is layout, an open one is not; after a word a layout
must not begin with `#` -/
example : IsLayoutW " \t# a | b ... \"c\" \n\x0c\r\n  ".toList := ⟨by decide, fun r e => by cases e⟩

example : IsLayout "# c\n".toList := by decide +kernel

example : ¬ IsLayout " # c".toList := by decide +kernel

example : ¬ IsLayout " x ".toList := by decide +kernel

namespace Full

def dots3 : List Char → Bool
  | '.' :: '.' :: '.' :: _ => true
  | _ => false

theorem dots3_cons_ne (c : Char) (r : List Char) (h : c ≠ '.') : dots3 (c :: r) = false := by
  unfold dots3
  split
  · rename_i heq; cases heq; exact absurd rfl h
  · rfl

theorem dots3_nil : dots3 [] = false := rfl

theorem dots3_dot_ne (c : Char) (r : List Char) (h : c ≠ '.') : dots3 ('.' :: c :: r) = false := by
  unfold dots3
  split
  · rename_i heq; cases heq; exact absurd rfl h
  · rfl

theorem dots3_dot_nil : dots3 ['.'] = false := rfl

theorem dots3_dot_dot_nil : dots3 ['.', '.'] = false := rfl

theorem dots3_dot_dot_ne (c : Char) (r : List Char) (h : c ≠ '.') : dots3 ('.' :: '.' :: c :: r) = false := by
  unfold dots3
  split
  · rename_i heq; cases heq; exact absurd rfl h
  · rfl

theorem dots3_notDot (l : List Char) (h : NotDotHead l) : dots3 l = false := by
  rcases h with rfl | ⟨x, r, rfl, hx⟩
  · rfl
  · exact dots3_cons_ne x r hx

theorem dots3_dot_notDot (l : List Char) (h : NotDotHead l) : dots3 ('.' :: l) = false := by
  rcases h with rfl | ⟨x, r, rfl, hx⟩
  · rfl
  · exact dots3_dot_ne x r hx

theorem dots3_dot_dot_notDot (l : List Char) (h : NotDotHead l) : dots3 ('.' :: '.' :: l) = false := by
  rcases h with rfl | ⟨x, r, rfl, hx⟩
  · rfl
  · exact dots3_dot_dot_ne x r hx

theorem prefix_dots3 (l : List Char) : ['.', '.', '.'].isPrefixOf l = dots3 l := by
  rcases l with _ | ⟨a, _ | ⟨b, _ | ⟨c, l⟩⟩⟩
  · rfl
  · by_cases ha : a = '.'
    · subst ha; rfl
    · rw [dots3_cons_ne a _ ha]
      have : ('.' == a) = false := by simpa using fun e => ha e.symm
      simp [List.isPrefixOf, this]
  · by_cases ha : a = '.'
    · subst ha; simp [List.isPrefixOf, dots3]
    · rw [dots3_cons_ne a _ ha]
      have : ('.' == a) = false := by simpa using fun e => ha e.symm
      simp [List.isPrefixOf, this]
  · by_cases ha : a = '.'
    · subst ha
      by_cases hb : b = '.'
      · subst hb
        by_cases hc : c = '.'
        · subst hc; simp [List.isPrefixOf, dots3]
        · rw [dots3_dot_dot_ne c _ hc]
          have : ('.' == c) = false := by simpa using fun e => hc e.symm
          simp [List.isPrefixOf, this]
      · rw [dots3_dot_ne b _ hb]
        have : ('.' == b) = false := by simpa using fun e => hb e.symm
        simp [List.isPrefixOf, this]
    · rw [dots3_cons_ne a _ ha]
      have : ('.' == a) = false := by simpa using fun e => ha e.symm
      simp [List.isPrefixOf, this]

end Full

theorem regular_ne {x : Char} (h : isRegular x = true) (y : Char) (hy : isRegular y = false) : x ≠ y := by
  intro e; subst e; rw [h] at hy; cases hy

/-- a character that can begin a printed expression -/
def starter (c : Char) : Bool := notBlank c && c ≠ '"' && c ≠ '.'

theorem starter_spec {c : Char} (h : starter c = true) : notBlank c = true ∧ c ≠ '"' ∧ c ≠ '.' := by
  simpa [starter, and_assoc] using h

theorem regular_starter {x : Char} (h : isRegular x = true) (hx : x ≠ '#') : starter x = true := by
  have h1 := regular_ne h ' ' (by decide +kernel)
  have h2 := regular_ne h '\t' (by decide +kernel)
  have h3 := regular_ne h '\r' (by decide +kernel)
  have h4 := regular_ne h '\n' (by decide +kernel)
  have h5 := regular_ne h '\x0c' (by decide +kernel)
  have h6 := regular_ne h '"' (by decide +kernel)
  have h7 := regular_ne h '.' (by decide +kernel)
  simp [starter, notBlank, isSpace, h1, h2, h3, h4, h5, h6, h7, hx]

namespace Full

theorem escT_dots3 (t X : List Char) (hX : NotDotHead X) : dots3 (escT 0 t ++ X) = false := by
  cases t with
  | nil => simpa [escT] using dots3_notDot X hX
  | cons c t =>
    by_cases hc : c = '.'
    · subst hc
      rw [escT_dot_lt 0 t (by omega)]
      cases t with
      | nil => simpa [escT] using dots3_dot_notDot X hX
      | cons c2 t2 =>
        by_cases hc2 : c2 = '.'
        · subst hc2
          rw [escT_dot_lt 1 t2 (by omega)]
          have : NotDotHead (escT 2 t2 ++ X) := by
            cases t2 with
            | nil => simpa [escT] using hX
            | cons c3 t3 => exact escT_notDot 2 _ X (by simp) (.inr (Nat.le_refl _))
          exact dots3_dot_dot_notDot _ this
        · have := escT_notDot 1 (c2 :: t2) X (by simp) (.inl ⟨c2, t2, rfl, hc2⟩)
          exact dots3_dot_notDot _ this
    · exact dots3_notDot _ (escT_notDot 0 (c :: t) X (by simp) (.inl ⟨c, t, rfl, hc⟩))

/-- a character a printed literal can begin with -/
def litStart (c : Char) : Bool := (isRegular c && c != '#') || c == '\\' || c == '.'

theorem litStart_spec {c : Char} (h : litStart c = true) :
    notBlank c = true ∧ c ≠ '"' ∧ c ≠ '<' ∧ c ≠ '[' ∧ c ≠ '(' ∧ c ≠ '{' := by
  simp only [litStart, Bool.or_eq_true, Bool.and_eq_true, bne_iff_ne, ne_eq, beq_iff_eq] at h
  rcases h with (⟨h, hx⟩ | h) | h
  · have hs := starter_spec (regular_starter h hx)
    exact ⟨hs.1, hs.2.1, regular_ne h _ (by decide +kernel), regular_ne h _ (by decide +kernel), regular_ne h _ (by decide +kernel),
      regular_ne h _ (by decide +kernel)⟩
  · subst h; decide
  · subst h; decide

theorem escT_head (t : List Char) (ht : t ≠ []) (hh : t.head? ≠ some '#') :
    ∃ c r, escT 0 t = c :: r ∧ litStart c = true := by
  cases t with
  | nil => exact absurd rfl ht
  | cons c t =>
    by_cases hc : c = '.'
    · subst hc; exact ⟨'.', _, escT_dot_lt 0 t (by omega), by decide⟩
    · by_cases hreg : isRegular c = true
      · refine ⟨c, _, escT_reg 0 c t hc hreg, ?_⟩
        have : c ≠ '#' := by simpa using hh
        simp [litStart, hreg, this]
      · exact ⟨'\\', _, escT_special 0 c t hc (by simpa using hreg), by decide⟩

def Any (_ : List Char) : Prop := True

/-- after a literal without description, at the base level -/
def BL (t rest : List Char) : Prop := BCont rest ∧ DotOK t rest

/-- after a unary expression within a word: no `...` follows -/
def WD (rest : List Char) : Prop := dots3 (afterBlanks rest) = false

/-- after a literal without description within a word -/
def WL (t rest : List Char) : Prop := BL t rest ∧ WD rest

/-- after a word that may get a description -/
def UD (rest : List Char) : Prop := StopHead rest ∧ WD rest

/-- after a word: neither another unary expression directly, nor `...`, nor a description -/
def UC (rest : List Char) : Prop := StopHead rest ∧ (∀ r, afterBlanks rest ≠ '"' :: r) ∧ WD rest

theorem _root_.Complgen.Parse.StopHead.notDot {l : List Char} (h : StopHead l) : NotDotHead l := by
  rcases h with rfl | ⟨c, r, rfl, hc⟩
  · exact .inl rfl
  · exact .inr ⟨c, r, rfl, (stopCh_spec hc).2.2.1⟩

theorem UC.b {rest : List Char} (h : UC rest) : BCont rest := ⟨h.1.dec, h.2.1⟩

theorem UC.bl {rest : List Char} (h : UC rest) (t : List Char) : BL t rest := ⟨h.b, .inl h.1.notDot⟩

theorem UC.wl {rest : List Char} (h : UC rest) (t : List Char) : WL t rest := ⟨h.bl t, h.2.2⟩

theorem _root_.Complgen.Parse.SCont.uc {rest : List Char} (h : SCont rest) : UC rest := by
  refine ⟨h.1, ?_, ?_⟩
  · intro r e
    exact h.2.ne '"' (by decide +kernel) r e
  · exact dots3_notDot _ h.2.notDot

theorem many1Tag_none (s : PState) (h : dots3 (afterBlanks s.rest) = false) : many1Tag s = none := by
  unfold many1Tag
  rw [tag?_eq (cs := ['.', '.', '.']) rfl, mb0_rest, prefix_dots3, h]
  rfl

def NBStart (T : List Char) : Prop := ∃ c r, T = c :: r ∧ notBlank c = true

def endsDot (t : List Char) : Bool := t.getLast? == some '.'

/-- no unary expression begins here: the end of the input, a stop character, or `"` -/
def StopQ (l : List Char) : Prop := StopHead l ∨ ∃ r, l = '"' :: r

theorem StopQ.notDot {l : List Char} (h : StopQ l) : NotDotHead l := by
  rcases h with h | ⟨r, rfl⟩
  · exact h.notDot
  · exact .inr ⟨'"', r, rfl, by decide⟩

theorem baseP_none_quote (f : Nat) (s : PState) (r : List Char) (h : s.rest = '"' :: r) :
    baseP f s = none := by
  have hne : ∀ x, x ≠ '"' → ∀ r', s.rest ≠ x :: r' := by
    intro x hx r' e; rw [h] at e; cases e; exact hx rfl
  unfold baseP
  rw [nonterm_none s (hne _ (by decide +kernel)), optional_none f s (hne _ (by decide +kernel)),
    parenthesized_none f s (hne _ (by decide +kernel)), triple_none s (hne _ (by decide +kernel)),
    terminal_none s (by rw [h]; exact dec'_other '"' r (by decide +kernel) (by decide +kernel) (by decide +kernel))]

theorem unary_noneQ (f : Nat) (s : PState) (h : StopQ s.rest) : unary f s = none := by
  rcases h with h | ⟨r, h⟩
  · exact unary_none f s h
  · cases f with
    | zero => exact unary_zero s
    | succ f => rw [unary_succ, baseP_none_quote f s r h]

theorem subwordLoop_stopQ (f : Nat) (s : PState) (acc : List Expr) (h : StopQ s.rest) :
    subwordLoop f s acc = (s, acc) := by
  cases f with
  | zero => exact subwordLoop_zero s acc
  | succ f => rw [subwordLoop_succ, unary_noneQ f s h]

/-- after a word that may get a description: no unary expression follows directly, no `...` after blanks -/
def UD' (rest : List Char) : Prop := StopQ rest ∧ WD rest

theorem UC.d' {rest : List Char} (h : UC rest) : UD' rest := ⟨.inl h.1, h.2.2⟩

theorem UD.d' {rest : List Char} (h : UD rest) : UD' rest := ⟨.inl h.1, h.2⟩

/-- what must follow a word, according to whether its last factor is a literal without description -/
def AfterWord : Bool → List Char → Prop
  | true => UC
  | false => UD'

theorem AfterWord.d {b : Bool} {rest : List Char} (h : AfterWord b rest) : UD' rest := by
  cases b
  · exact h
  · exact UC.d' h

theorem AfterWord.of_uc (b : Bool) {rest : List Char} (h : UC rest) : AfterWord b rest := by
  cases b
  · exact h.d'
  · exact h

theorem NBStart.nbh {T : List Char} (h : NBStart T) (X : List Char) : NBHead (T ++ X) := by
  obtain ⟨c, r, rfl, hc⟩ := h
  exact NBHead_cons c _ hc

theorem blank_ne_dot {c : Char} (h : blankCh c = true) : c ≠ '.' := (stopCh_spec (blank_stop h)).2.2.1

theorem _root_.Complgen.Parse.IsLayoutW.notDot {l : List Char} (hl : IsLayoutW l) {X : List Char} (hX : NotDotHead X) :
    NotDotHead (l ++ X) := by
  cases l with
  | nil => exact hX
  | cons c cs => exact .inr ⟨c, cs ++ X, rfl, blank_ne_dot hl.head⟩

theorem _root_.Complgen.Parse.IsLayoutW.notDot_ne {l : List Char} (hl : IsLayoutW l) (hne : l ≠ []) (X : List Char) :
    NotDotHead (l ++ X) := by
  cases l with
  | nil => exact absurd rfl hne
  | cons c cs => exact .inr ⟨c, cs ++ X, rfl, blank_ne_dot hl.head⟩

theorem notDot_bar (X : List Char) : NotDotHead ('|' :: X) := .inr ⟨'|', X, rfl, by decide⟩

theorem notDot_quote (X : List Char) : NotDotHead ('"' :: X) := .inr ⟨'"', X, rfl, by decide⟩

end Full

/-- `PTs L C n T (fun _ e' => e'.eraseSpans = E)`, written out -/
def PT (L : Nat → PState → Option (PState × Expr)) (C : List Char → Prop) (n : Nat) (T : List Char)
    (E : Expr) : Prop :=
  ∀ rest, C rest → ∀ s : PState, s.rest = T ++ rest → ∀ f, n ≤ f →
    ∃ e', L f s = some (s.adv T.length, e') ∧ e'.eraseSpans = E

def PTs (L : Nat → PState → Option (PState × Expr)) (C : List Char → Prop) (n : Nat) (T : List Char)
    (R : PState → Expr → Prop) : Prop :=
  ∀ rest, C rest → ∀ s : PState, s.rest = T ++ rest → ∀ f, n ≤ f →
    ∃ e', L f s = some (s.adv T.length, e') ∧ R s e'

/-- the same for a loop: the items it appends to the accumulator, read from `s`, satisfy `R s` -/
def LTs (L : Nat → PState → List Expr → PState × List Expr) (C : List Char → Prop) (n : Nat)
    (T : List Char) (R : PState → ExprL → Prop) : Prop :=
  ∀ rest, C rest → ∀ s : PState, s.rest = T ++ rest → ∀ (acc : List Expr) (f : Nat), n ≤ f →
    ∃ es', L f s acc = (s.adv T.length, acc ++ es') ∧ R s (ExprL.ofList es')

theorem PTs.mono {L : Nat → PState → Option (PState × Expr)} {C : List Char → Prop} {n m : Nat}
    {T : List Char} {R : PState → Expr → Prop} (h : PTs L C n T R) (hnm : n ≤ m) : PTs L C m T R :=
  fun rest hr s hs f hf => h rest hr s hs f (Nat.le_trans hnm hf)

theorem LTs.mono {L : Nat → PState → List Expr → PState × List Expr} {C : List Char → Prop} {n m : Nat}
    {T : List Char} {R : PState → ExprL → Prop} (h : LTs L C n T R) (hnm : n ≤ m) : LTs L C m T R :=
  fun rest hr s hs acc f hf => h rest hr s hs acc f (Nat.le_trans hnm hf)

theorem PTs.imp {L : Nat → PState → Option (PState × Expr)} {C : List Char → Prop} {n : Nat}
    {T : List Char} {R R' : PState → Expr → Prop} (h : PTs L C n T R)
    (hR : ∀ s e', R s e' → R' s e') : PTs L C n T R' := by
  intro rest hr s hs f hf
  obtain ⟨e', he, hE⟩ := h rest hr s hs f hf
  exact ⟨e', he, hR _ _ hE⟩

theorem LTs.imp {L : Nat → PState → List Expr → PState × List Expr} {C : List Char → Prop} {n : Nat}
    {T : List Char} {R R' : PState → ExprL → Prop} (h : LTs L C n T R)
    (hR : ∀ s es', R s es' → R' s es') : LTs L C n T R' := by
  intro rest hr s hs acc f hf
  obtain ⟨es', he, hE⟩ := h rest hr s hs acc f hf
  exact ⟨es', he, hR _ _ hE⟩

theorem PTs.text {L : Nat → PState → Option (PState × Expr)} {C : List Char → Prop} {n : Nat}
    {T T' : List Char} {R : PState → Expr → Prop} (h : PTs L C n T R) (hT : T = T') : PTs L C n T' R :=
  hT ▸ h

theorem LTs.text {L : Nat → PState → List Expr → PState × List Expr} {C : List Char → Prop} {n : Nat}
    {T T' : List Char} {R : PState → ExprL → Prop} (h : LTs L C n T R) (hT : T = T') : LTs L C n T' R :=
  hT ▸ h

theorem PTs.weaken {L : Nat → PState → Option (PState × Expr)} {C C' : List Char → Prop} {n : Nat}
    {T : List Char} {R : PState → Expr → Prop} (h : PTs L C n T R) (hc : ∀ r, C' r → C r) : PTs L C' n T R :=
  fun rest hr s hs f hf => h rest (hc rest hr) s hs f hf

theorem ofList_cons_ne_nil {es : List Expr} {x : Expr} {xs : ExprL}
    (h : ExprL.ofList es = .cons x xs) : ∃ y ys, es = y :: ys := by
  cases es with
  | nil => simp [ExprL.ofList] at h
  | cons y ys => exact ⟨y, ys, rfl⟩

/-- The four list levels (`subwordSeq`, `sequence`, `alternative`, `fallback`) have one shape: the parser `P`
reads an `item` of the level below, then its loop `L` reads a separator `sep` and another item as long as
both succeed; several items are wrapped by `mk` into a node that spans them. -/
structure ListLevel (P : Nat → PState → Option (PState × Expr))
    (L : Nat → PState → List Expr → PState × List Expr) (sep : PState → Option PState)
    (item : Nat → PState → Option (PState × Expr)) (mk : ExprL → Span → Expr) : Prop where
  loop_succ : ∀ f s acc, L (f + 1) s acc =
    match sep s with
    | none => (s, acc)
    | some s1 =>
      match item f s1 with
      | some (s2, e) => L f s2 (acc ++ [e])
      | none => (s, acc)
  succ : ∀ f s, P (f + 1) s =
    match item f s with
    | none => none
    | some (s1, left) =>
      let (s2, xs) := L f s1 [left]
      match xs with
      | [e] => some (s2, e)
      | _ => some (s2, mk (ExprL.ofList xs) (fromRange s s2))

theorem LTs.nil_of_stop {L : Nat → PState → List Expr → PState × List Expr} {C : List Char → Prop}
    (hstop : ∀ f s acc, C s.rest → L f s acc = (s, acc)) : LTs L C 0 [] (fun _ es' => es' = .nil) := by
  intro rest hrest s hs acc f _
  refine ⟨[], ?_, rfl⟩
  rw [hstop f s acc (by rw [hs]; exact hrest)]
  simp [adv_zero]

section
variable {P : Nat → PState → Option (PState × Expr)} {L : Nat → PState → List Expr → PState × List Expr}
  {sep : PState → Option PState} {item : Nat → PState → Option (PState × Expr)} {mk : ExprL → Span → Expr}
  (H : ListLevel P L sep item mk) {C C1 : List Char → Prop} {n n1 n2 : Nat} {S T T1 T2 : List Char}
  {R R1 : PState → Expr → Prop} {R2 : PState → ExprL → Prop}
include H

theorem ListLevel.cons (hsep : ∀ s X, s.rest = S ++ (T1 ++ X) → sep s = some (s.adv S.length))
    (h1 : PTs item C1 n1 T1 R1) (h2 : LTs L C n2 T2 R2) (hc : ∀ rest, C rest → C1 (T2 ++ rest)) :
    LTs L C (max n1 n2 + 1) (S ++ T1 ++ T2)
      (fun s es' => ∃ e' r', es' = .cons e' r' ∧ R1 (s.adv S.length) e' ∧
        R2 ((s.adv S.length).adv T1.length) r') := by
  intro rest hrest s hs acc f hf
  obtain ⟨f, rfl⟩ : ∃ f', f = f' + 1 := ⟨f - 1, by omega⟩
  have hs' : s.rest = S ++ (T1 ++ (T2 ++ rest)) := by rw [hs]; simp
  have hr1 : (s.adv S.length).rest = T1 ++ (T2 ++ rest) := adv_rest_append _ _ _ hs'
  obtain ⟨e1, he1, hE1⟩ := h1 (T2 ++ rest) (hc rest hrest) _ hr1 f (by omega)
  have hr2 : ((s.adv S.length).adv T1.length).rest = T2 ++ rest := adv_rest_append _ _ _ hr1
  obtain ⟨es', hes, hEs⟩ := h2 rest hrest _ hr2 (acc ++ [e1]) f (by omega)
  refine ⟨e1 :: es', ?_, e1, ExprL.ofList es', rfl, hE1, hEs⟩
  rw [H.loop_succ, hsep s _ hs']
  simp only
  rw [he1]
  simp only
  rw [hes, adv_add', adv_add']
  simp

theorem ListLevel.natives (h1 : PTs item C1 n1 T1 R1) (h2 : LTs L C n2 T2 R2)
    (hne : ∀ s es', R2 s es' → ∃ x xs, es' = .cons x xs) (hc : ∀ rest, C rest → C1 (T2 ++ rest)) :
    PTs P C (max n1 n2 + 1) (T1 ++ T2)
      (fun s e' => ∃ c1 cs', e' = mk (.cons c1 cs') (fromRange s (s.adv (T1 ++ T2).length)) ∧
        R1 s c1 ∧ R2 (s.adv T1.length) cs') := by
  intro rest hrest s hs f hf
  obtain ⟨f, rfl⟩ : ∃ f', f = f' + 1 := ⟨f - 1, by omega⟩
  have hs' : s.rest = T1 ++ (T2 ++ rest) := by rw [hs]; simp
  obtain ⟨e1, he1, hE1⟩ := h1 (T2 ++ rest) (hc rest hrest) s hs' f (by omega)
  have hr1 : (s.adv T1.length).rest = T2 ++ rest := adv_rest_append _ _ _ hs'
  obtain ⟨es', hes, hEs⟩ := h2 rest hrest _ hr1 [e1] f (by omega)
  obtain ⟨x0, xs0, hx0⟩ := hne _ _ hEs
  obtain ⟨x, xs, rfl⟩ := ofList_cons_ne_nil hx0
  refine ⟨mk (ExprL.ofList (e1 :: x :: xs)) (fromRange s (s.adv (T1 ++ T2).length)), ?_,
    e1, ExprL.ofList (x :: xs), rfl, hE1, hEs⟩
  rw [H.succ, he1]
  simp only
  rw [hes, adv_add']
  simp

theorem ListLevel.lift (hstop : ∀ f s acc, C s.rest → L f s acc = (s, acc)) (h : PTs item C1 n T R)
    (hc : ∀ r, C r → C1 r) : PTs P C (n + 1) T R := by
  intro rest hrest s hs f hf
  obtain ⟨f, rfl⟩ : ∃ f', f = f' + 1 := ⟨f - 1, by omega⟩
  obtain ⟨e', he, hE⟩ := h rest (hc rest hrest) s hs f (by omega)
  refine ⟨e', ?_, hE⟩
  rw [H.succ, he]
  simp only
  rw [hstop f _ _ (by rw [adv_rest_append s T rest hs]; exact hrest)]

end

theorem ofList_map_flatten : ∀ l : List Expr,
    ExprL.ofList (l.map Check.flatten) = Check.flattenL (ExprL.ofList l)
  | [] => by simp [ExprL.ofList, Check.flattenL]
  | e :: l => by simp [ExprL.ofList, Check.flattenL, ofList_map_flatten l]

theorem wordLevel : ListLevel subwordSeq subwordLoop some unary
    (fun es sp => .sub (.seq (Check.flattenL es) sp) 0 sp) :=
  ⟨subwordLoop_succ, fun f s => by rw [subwordSeq_succ]; simp only [ofList_map_flatten]⟩

theorem seqLevel : ListLevel sequence sequenceLoop mb1 sseod .seq := ⟨sequenceLoop_succ, sequence_succ⟩

theorem altLevel : ListLevel alternative alternativeLoop (fun s => (char? '|' (mb0 s)).map mb0) sequence .alt :=
  ⟨fun f s acc => by rw [alternativeLoop_succ]; cases char? '|' (mb0 s) <;> rfl, alternative_succ⟩

theorem fbLevel : ListLevel fallback fallbackLoop (fun s => (tag? "||" (mb0 s)).map mb0) alternative .fb :=
  ⟨fun f s acc => by rw [fallbackLoop_succ]; cases tag? "||" (mb0 s) <;> rfl, fallback_succ⟩

theorem lift_seq_alt {n : Nat} {T : List Char} {R : PState → Expr → Prop} (h : PTs sequence SCont n T R) :
    PTs alternative ACont (n + 1) T R :=
  altLevel.lift alternativeLoop_stop h (fun _ => ACont.s)

theorem lift_alt_fb {n : Nat} {T : List Char} {R : PState → Expr → Prop} (h : PTs alternative ACont n T R) :
    PTs fallback FCont (n + 1) T R :=
  fbLevel.lift fallbackLoop_stop h (fun _ => FCont.a)

theorem nonterm_ok_span (n rest : List Char) (s : PState) (hn : n ≠ []) (hgt : ∀ c ∈ n, c ≠ '>')
    (hs : s.rest = '<' :: n ++ '>' :: rest) :
    nonterm s = some (s.adv (n.length + 2), String.ofList n, fromRange s (s.adv (n.length + 2))) := by
  have h1 := char?_some '<' s _ hs
  have hr1 : (s.adv 1).rest = n ++ '>' :: rest := by rw [adv_rest', hs]; rfl
  have hrun : (s.adv 1).rest.takeWhile (fun c => !['>'].contains c) = n := by
    rw [hr1]
    exact takeWhile_run _ n _ (by simpa using hgt) (.inr ⟨'>', rest, rfl, by simp⟩)
  have h2 : isNot ['>'] (s.adv 1) = some ((s.adv 1).adv n.length, n) := by
    unfold isNot
    simp only [hrun]
    cases n with
    | nil => exact absurd rfl hn
    | cons _ _ => simp
  have hr2 : ((s.adv 1).adv n.length).rest = '>' :: rest := adv_rest_append _ _ _ hr1
  have h3 := char?_some '>' _ _ hr2
  unfold nonterm
  simp only [h1, h2, h3, Option.bind_eq_bind, Option.bind_some]
  rw [adv_add', adv_add']
  rw [show 1 + (n.length + 1) = n.length + 2 by omega]

def noTriple : List Char → Bool
  | [] => true
  | c :: cs => !(['}', '}', '}'].isPrefixOf (c :: cs)) && noTriple cs

theorem triple_prefix_append (l r : List Char) :
    ['}', '}', '}'].isPrefixOf (l ++ ' ' :: r) = ['}', '}', '}'].isPrefixOf l := by
  rcases l with _ | ⟨a, _ | ⟨b, _ | ⟨c, l⟩⟩⟩ <;> simp [List.isPrefixOf]

theorem findTriple_cons (c : Char) (cs : List Char) : findTriple (c :: cs) =
    if ['}', '}', '}'].isPrefixOf (c :: cs) then some 0 else (findTriple cs).map (· + 1) := by
  rw [findTriple]; rfl

theorem findTriple_ok (rest : List Char) : ∀ c : List Char, noTriple c = true →
    findTriple (c ++ ' ' :: '}' :: '}' :: '}' :: rest) = some (c.length + 1)
  | [], _ => by
    simp [findTriple_cons, List.isPrefixOf]
  | x :: c, h => by
    simp only [noTriple, Bool.and_eq_true, Bool.not_eq_true'] at h
    rw [List.cons_append, findTriple_cons, ← List.cons_append, triple_prefix_append, h.1]
    simp [findTriple_ok rest c h.2]

theorem trim_ok (c : List Char) (h1 : ∀ x, c.head? = some x → isWs x = false)
    (h2 : ∀ x, c.getLast? = some x → isWs x = false) : trim (' ' :: c ++ [' ']) = c := by
  have hsp : isWs ' ' = true := by decide +kernel
  unfold trim
  cases c with
  | nil => simp [List.dropWhile, hsp]
  | cons x c' =>
    have hx := h1 x rfl
    have e1 : (' ' :: (x :: c') ++ [' ']).dropWhile isWs = x :: c' ++ [' '] := by
      simp [List.dropWhile, hsp, hx]
    rw [e1]
    have e2 : (x :: c' ++ [' ']).reverse = ' ' :: (x :: c').reverse := by simp
    rw [e2]
    have e3 : (' ' :: (x :: c').reverse).dropWhile isWs = ((x :: c').reverse).dropWhile isWs := by
      simp [List.dropWhile, hsp]
    rw [e3]
    have hh : (x :: c').reverse.head? = (x :: c').getLast? := List.head?_reverse
    cases hrv : (x :: c').reverse with
    | nil => simp at hrv
    | cons y ys =>
      rw [hrv] at hh
      have hy := h2 y hh.symm
      have : (y :: ys).dropWhile isWs = y :: ys := by simp [List.dropWhile, hy]
      rw [this, ← hrv, List.reverse_reverse]

theorem cmd_ok (c rest : List Char) (s : PState) (h1 : ∀ x, c.head? = some x → isWs x = false)
    (h2 : ∀ x, c.getLast? = some x → isWs x = false) (h3 : noTriple c = true)
    (hs : s.rest = '{' :: '{' :: '{' :: ' ' :: c ++ ' ' :: '}' :: '}' :: '}' :: rest) :
    tripleBracketCommand s = some (s.adv (c.length + 8), String.ofList c) := by
  have ht1 : tag? "{{{" s = some (s.adv 3) := tag?_some (cs := ['{', '{', '{']) rfl s _ hs
  have hr1 : (s.adv 3).rest = ' ' :: c ++ ' ' :: '}' :: '}' :: '}' :: rest := by
    rw [adv_rest', hs]; rfl
  have hf : findTriple (s.adv 3).rest = some (c.length + 2) := by
    rw [hr1, List.cons_append, findTriple_cons]
    simp [List.isPrefixOf, findTriple_ok rest c h3]
  have hr1' : (s.adv 3).rest = (' ' :: c ++ [' ']) ++ '}' :: '}' :: '}' :: rest := by rw [hr1]; simp
  have hlen : (' ' :: c ++ [' ']).length = c.length + 2 := by simp
  have htake : (s.adv 3).rest.take (c.length + 2) = ' ' :: c ++ [' '] := by
    rw [hr1', ← hlen]; exact List.take_left' rfl
  have hr2 : ((s.adv 3).adv (c.length + 2)).rest = '}' :: '}' :: '}' :: rest := by
    rw [← hlen]; exact adv_rest_append _ _ _ hr1'
  have ht2 : tag? "}}}" ((s.adv 3).adv (c.length + 2)) = some (((s.adv 3).adv (c.length + 2)).adv 3) :=
    tag?_some (cs := ['}', '}', '}']) rfl _ _ hr2
  unfold tripleBracketCommand
  simp only [ht1, hf, ht2, htake, Option.bind_eq_bind, Option.bind_some, trim_ok c h1 h2]
  rw [adv_add', adv_add']
  rw [show 3 + (c.length + 2 + 3) = c.length + 8 by omega]

def cmdText (c : List Char) : List Char := '{' :: '{' :: '{' :: ' ' :: c ++ [' ', '}', '}', '}']

namespace Full

def descrTextL (l d : List Char) : List Char := l ++ '"' :: escD d ++ ['"']

theorem optDescription_someL (s : PState) (l d rest : List Char) (hl : IsLayout l)
    (hs : s.rest = descrTextL l d ++ rest) :
    optDescription s = (s.adv (descrTextL l d).length, some (String.ofList d)) := by
  have hs' : s.rest = l ++ ('"' :: escD d ++ '"' :: rest) := by rw [hs]; simp [descrTextL]
  have hm := mb0_layout s l _ hl (NBHead_cons '"' _ (by decide +kernel)) hs'
  have hr2 := adv_rest_append s l _ hs'
  have hd := description_roundtrip d rest _ hr2
  unfold optDescription
  rw [hm, hd]
  simp only [adv_add']
  congr 2
  simp [descrTextL]

theorem UD'_descr (l d rest : List Char) (hl : IsLayoutW l) : UD' (descrTextL l d ++ rest) := by
  have e : descrTextL l d ++ rest = l ++ '"' :: (escD d ++ '"' :: rest) := by simp [descrTextL]
  rw [e]
  constructor
  · cases l with
    | nil => exact .inr ⟨_, rfl⟩
    | cons c cs => exact .inl (.inr ⟨c, _, rfl, blank_stop hl.head⟩)
  · unfold WD
    rw [afterBlanks_layout_nb l _ hl.1 (NBHead_cons _ _ (by decide +kernel))]
    exact dots3_cons_ne _ _ (by decide +kernel)

theorem Terminates_descr (l d rest : List Char) (hl : IsLayoutW l) : Terminates (descrTextL l d ++ rest) := by
  have e : descrTextL l d ++ rest = l ++ '"' :: (escD d ++ '"' :: rest) := by simp [descrTextL]
  rw [e]
  cases l with
  | nil => exact .inr ⟨'"', _, rfl, by decide, by decide, by decide⟩
  | cons c cs =>
    obtain ⟨h1, h2, h3, _⟩ := stopCh_spec (blank_stop hl.head)
    exact .inr ⟨c, _, rfl, h1, h2, h3⟩

def spanOf (s : PState) (n : Nat) : Span := fromRange s (s.adv n)

theorem lit_bare_reads (t : List Char) (ht : t ≠ []) (hperm : ∀ c ∈ t, isRegular c = true ∨ isEsc c = true)
    (hh : t.head? ≠ some '#') :
    PTs baseP (BL t) 0 (escT 0 t)
      (fun s e' => e' = .term (String.ofList t) none 0 (spanOf s (escT 0 t).length)) := by
  intro rest hrest s hs f _
  have hterm := terminal_roundtrip_gen t rest s ht hperm hrest.1.1 hrest.2 hs
  have hod : optDescription (s.adv (escT 0 t).length) = (s.adv (escT 0 t).length, none) :=
    optDescription_none _ (by rw [adv_rest_append s _ rest hs]; exact hrest.1.2)
  obtain ⟨x, r, hx, hstart⟩ := escT_head t ht hh
  obtain ⟨_, _, h3, h4, h5, h6⟩ := litStart_spec hstart
  have hne : ∀ y, x ≠ y → ∀ r', s.rest ≠ y :: r' := by
    intro y hy r' e; rw [hs, hx] at e; cases e; exact hy rfl
  refine ⟨.term (String.ofList t) none 0 (fromRange s (s.adv (escT 0 t).length)), ?_, rfl⟩
  unfold baseP
  rw [nonterm_none s (hne _ h3), optional_none f s (hne _ h4),
    parenthesized_none f s (hne _ h5), triple_none s (hne _ h6), hterm]
  simp only [hod]

/-- a literal with its description: the span runs to the closing `"` -/
theorem lit_descr_reads (t d l : List Char) (hl : IsLayoutW l) (ht : t ≠ [])
    (hperm : ∀ c ∈ t, isRegular c = true ∨ isEsc c = true) (hh : t.head? ≠ some '#') :
    PTs baseP Any 0 (escT 0 t ++ descrTextL l d)
      (fun s e' => e' = .term (String.ofList t) (some (String.ofList d)) 0
        (spanOf s (escT 0 t ++ descrTextL l d).length)) := by
  intro rest _ s hs f _
  have hs' : s.rest = escT 0 t ++ (descrTextL l d ++ rest) := by rw [hs]; simp
  have hterm := terminal_roundtrip t _ s ht hperm (Terminates_descr l d rest hl) hs'
  have hr1 := adv_rest_append s _ _ hs'
  have hod : optDescription (s.adv (escT 0 t).length) =
      (s.adv (escT 0 t ++ descrTextL l d).length, some (String.ofList d)) := by
    rw [optDescription_someL _ l d rest hl.1 hr1, adv_add', List.length_append]
  obtain ⟨x, r, hx, hstart⟩ := escT_head t ht hh
  obtain ⟨_, _, h3, h4, h5, h6⟩ := litStart_spec hstart
  have hne : ∀ y, x ≠ y → ∀ r', s.rest ≠ y :: r' := by
    intro y hy r' e; rw [hs', hx] at e; cases e; exact hy rfl
  refine ⟨.term (String.ofList t) (some (String.ofList d)) 0
    (fromRange s (s.adv (escT 0 t ++ descrTextL l d).length)), ?_, rfl⟩
  unfold baseP
  rw [nonterm_none s (hne _ h3), optional_none f s (hne _ h4),
    parenthesized_none f s (hne _ h5), triple_none s (hne _ h6), hterm]
  simp only [hod]

theorem nonterm_reads (n : List Char) (hn : n ≠ []) (hgt : ∀ c ∈ n, c ≠ '>') :
    PTs baseP Any 0 ('<' :: n ++ ['>'])
      (fun s e' => e' = .nonterm (String.ofList n) 0 (spanOf s (n.length + 2))) := by
  intro rest _ s hs f _
  have h := nonterm_ok_span n rest s hn hgt (by simpa using hs)
  refine ⟨.nonterm (String.ofList n) 0 (fromRange s (s.adv (n.length + 2))), ?_, rfl⟩
  unfold baseP
  rw [h]
  simp

theorem cmd_reads (c : List Char) (h1 : ∀ x, c.head? = some x → isWs x = false)
    (h2 : ∀ x, c.getLast? = some x → isWs x = false) (h3 : noTriple c = true) :
    PTs baseP Any 0 (cmdText c)
      (fun s e' => e' = .cmd (String.ofList c) false 0 (spanOf s (cmdText c).length)) := by
  intro rest _ s hs f _
  have hs' : s.rest = '{' :: '{' :: '{' :: ' ' :: c ++ ' ' :: '}' :: '}' :: '}' :: rest := by
    rw [hs]; simp [cmdText]
  have h := cmd_ok c rest s h1 h2 h3 hs'
  have hne : ∀ x, x ≠ '{' → ∀ r, s.rest ≠ x :: r := by
    intro x hx r e; rw [hs'] at e; cases e; exact hx rfl
  have hlen : (cmdText c).length = c.length + 8 := by simp [cmdText]
  refine ⟨.cmd (String.ofList c) false 0 (fromRange s (s.adv (cmdText c).length)), ?_, rfl⟩
  unfold baseP
  rw [nonterm_none s (hne _ (by decide +kernel)), optional_none f s (hne _ (by decide +kernel)),
    parenthesized_none f s (hne _ (by decide +kernel)), h, hlen]

theorem lift_base_unary {C C' : List Char → Prop} {n : Nat} {T : List Char} {R : PState → Expr → Prop}
    (h : PTs baseP C n T R) (hc : ∀ r, C' r → C r ∧ WD r) : PTs unary C' (n + 1) T R := by
  intro rest hrest s hs f hf
  obtain ⟨f, rfl⟩ : ∃ f', f = f' + 1 := ⟨f - 1, by omega⟩
  obtain ⟨e', he, hE⟩ := h rest (hc rest hrest).1 s hs f (by omega)
  refine ⟨e', ?_, hE⟩
  rw [unary_succ, he]
  simp only
  rw [many1Tag_none _ (by rw [adv_rest_append s T rest hs]; exact (hc rest hrest).2)]

theorem lift_unary_word {C C' : List Char → Prop} {n : Nat} {T : List Char} {R : PState → Expr → Prop}
    (h : PTs unary C n T R) (hc : ∀ r, C' r → C r ∧ StopQ r) : PTs subwordSeq C' (n + 1) T R :=
  wordLevel.lift (fun f s acc hr => subwordLoop_stopQ f s acc (hc _ hr).2) h (fun r hr => (hc r hr).1)

theorem lift_word_descr {C C' : List Char → Prop} {n : Nat} {T : List Char} {R : PState → Expr → Prop}
    (h : PTs subwordSeq C n T R) (hc : ∀ r, C' r → C r ∧ ∀ r', afterBlanks r ≠ '"' :: r') :
    PTs sseod C' (n + 1) T R := by
  intro rest hrest s hs f hf
  obtain ⟨f, rfl⟩ : ∃ f', f = f' + 1 := ⟨f - 1, by omega⟩
  obtain ⟨e', he, hE⟩ := h rest (hc rest hrest).1 s hs f (by omega)
  have hr := adv_rest_append s T rest hs
  refine ⟨e', ?_, hE⟩
  rw [sseod_succ, he]
  simp only
  rw [optDescription_none _ (by rw [hr]; exact (hc rest hrest).2)]

theorem lift_descr_seq {C : List Char → Prop} {n : Nat} {T : List Char} {R : PState → Expr → Prop}
    (h : PTs sseod C n T R) (hc : ∀ r, SCont r → C r) : PTs sequence SCont (n + 1) T R :=
  seqLevel.lift (fun f s acc hr => sequenceLoop_stop f s acc hr.2) h hc

theorem lift_word_top {C : List Char → Prop} {n : Nat} {T : List Char} {R : PState → Expr → Prop}
    (h : PTs subwordSeq C n T R) (hc : ∀ r, UC r → C r) :
    PTs sseod UC (n + 1) T R ∧ PTs sequence SCont (n + 2) T R ∧ PTs alternative ACont (n + 3) T R ∧
    PTs fallback FCont (n + 4) T R := by
  have h3 : PTs sseod UC (n + 1) T R := lift_word_descr h (fun r hr => ⟨hc r hr, hr.2.1⟩)
  have h2 := lift_descr_seq h3 (fun r hr => hr.uc)
  have h1 := lift_seq_alt h2
  have h0 := lift_alt_fb h1
  exact ⟨h3, h2, h1, h0⟩

/-- the `.dd` node starts where the word starts (at its parenthesis when it has one) and ends after the
closing `"` -/
theorem lift_word_dd {n : Nat} {T l : List Char} {R : PState → Expr → Prop} (d : List Char) (hl : IsLayoutW l)
    (h : PTs subwordSeq UD' n T R) :
    PTs sseod Any (n + 1) (T ++ descrTextL l d)
      (fun s e' => ∃ c', e' = .dd c' (String.ofList d) (spanOf s (T ++ descrTextL l d).length) ∧ R s c') := by
  intro rest _ s hs f hf
  obtain ⟨f, rfl⟩ : ∃ f', f = f' + 1 := ⟨f - 1, by omega⟩
  have hs' : s.rest = T ++ (descrTextL l d ++ rest) := by rw [hs]; simp
  obtain ⟨e', he, hE⟩ := h _ (UD'_descr l d rest hl) s hs' f (by omega)
  have hr := adv_rest_append s T _ hs'
  refine ⟨.dd e' (String.ofList d) (spanOf s (T ++ descrTextL l d).length), ?_, e', rfl, hE⟩
  rw [sseod_succ, he]
  simp only
  rw [optDescription_someL _ l d rest hl.1 hr]
  simp [adv_add', spanOf]

/-- the `.many1` node starts where the base expression starts -/
theorem lift_base_many1 {n : Nat} {T l : List Char} {R : PState → Expr → Prop} (hl : IsLayoutW l)
    (h : PTs baseP BCont n T R) :
    PTs unary Any (n + 1) (T ++ l ++ ['.', '.', '.'])
      (fun s e' => ∃ c', e' = .many1 c' (spanOf s (T.length + (l.length + 3))) ∧ R s c') := by
  intro rest _ s hs f hf
  obtain ⟨f, rfl⟩ : ∃ f', f = f' + 1 := ⟨f - 1, by omega⟩
  have hs' : s.rest = T ++ (l ++ '.' :: '.' :: '.' :: rest) := by rw [hs]; simp
  obtain ⟨e', he, hE⟩ := h _ (BCont_layout_dots l rest hl) s hs' f (by omega)
  refine ⟨.many1 e' (spanOf s (T.length + (l.length + 3))), ?_, e', rfl, hE⟩
  rw [unary_succ, he]
  simp only
  rw [many1Tag_layout _ l rest hl.1 (adv_rest_append s T _ hs'), adv_add']
  simp [spanOf]

theorem brackets_read {n : Nat} {T l1 l2 : List Char} {R : PState → Expr → Prop} (o c : Char)
    (hc1 : stopCh c = true) (hc2 : notBlank c = true) (hc3 : c ≠ '|') (hl1 : IsLayout l1) (hl2 : IsLayoutW l2)
    (hT : NBStart T) (h : PTs fallback FCont n T R) (rest : List Char) (s : PState)
    (hs : s.rest = o :: (l1 ++ (T ++ (l2 ++ c :: rest)))) (f : Nat) (hf : n ≤ f) :
    ∃ s2 e', char? o s = some (s.adv 1) ∧ fallback f (mb0 (s.adv 1)) = some (s2, e') ∧
      char? c (mb0 s2) = some (s.adv (1 + l1.length + T.length + l2.length + 1)) ∧
      R (s.adv (1 + l1.length)) e' := by
  have hr1 : (s.adv 1).rest = l1 ++ (T ++ (l2 ++ c :: rest)) := by rw [adv_rest', hs]; rfl
  have hm1 : mb0 (s.adv 1) = (s.adv 1).adv l1.length := mb0_layout _ l1 _ hl1 (hT.nbh _) hr1
  have hr2 : ((s.adv 1).adv l1.length).rest = T ++ (l2 ++ c :: rest) := adv_rest_append _ _ _ hr1
  obtain ⟨e', he, hE⟩ := h (l2 ++ c :: rest) (FCont_layout_close l2 _ _ hl2 hc1 hc2 hc3) _ hr2 f hf
  have hr3 : (((s.adv 1).adv l1.length).adv T.length).rest = l2 ++ c :: rest := adv_rest_append _ _ _ hr2
  have hm2 := mb0_layout _ l2 _ hl2.1 (NBHead_cons c rest hc2) hr3
  have hr4 := adv_rest_append _ l2 _ hr3
  refine ⟨_, e', char?_some o s _ hs, by rw [hm1, he], ?_, by rw [← adv_add']; exact hE⟩
  rw [hm2, char?_some c _ _ hr4]
  simp only [adv_add']

/-- `( l1 T l2 )` returns the tree of `T` unchanged: its spans are those of the text after `(` and `l1` -/
theorem paren_reads {n : Nat} {T l1 l2 : List Char} {R : PState → Expr → Prop} (hl1 : IsLayout l1)
    (hl2 : IsLayoutW l2) (hT : NBStart T) (h : PTs fallback FCont n T R) :
    PTs baseP Any (n + 1) (parenL l1 l2 T) (fun s e' => R (s.adv (1 + l1.length)) e') := by
  intro rest _ s hs f hf
  obtain ⟨f, rfl⟩ : ∃ f', f = f' + 1 := ⟨f - 1, by omega⟩
  have hs' : s.rest = '(' :: (l1 ++ (T ++ (l2 ++ ')' :: rest))) := by rw [hs]; simp [parenL]
  have hne : ∀ x, x ≠ '(' → ∀ r, s.rest ≠ x :: r := by
    intro x hx r e; rw [hs'] at e; cases e; exact hx rfl
  obtain ⟨s2, e', h1, h2, h3, hE⟩ := brackets_read '(' ')' (by decide +kernel) (by decide +kernel) (by decide +kernel) hl1 hl2 hT h rest s
    hs' f (by omega)
  refine ⟨e', ?_, hE⟩
  unfold baseP
  rw [nonterm_none s (hne _ (by decide +kernel)), optional_none _ s (hne _ (by decide +kernel)), parenthesized_succ, h1]
  simp only
  rw [h2]
  simp only
  rw [h3, show (parenL l1 l2 T).length = 1 + l1.length + T.length + l2.length + 1 by simp [parenL]; omega]

/-- `[ l1 T l2 ]`: the node spans the brackets, the child is laid out after `[` and `l1` -/
theorem optional_reads {n : Nat} {T l1 l2 : List Char} {R : PState → Expr → Prop} (hl1 : IsLayout l1)
    (hl2 : IsLayoutW l2) (hT : NBStart T) (h : PTs fallback FCont n T R) :
    PTs baseP Any (n + 1) ('[' :: l1 ++ T ++ l2 ++ [']'])
      (fun s e' => ∃ c', e' = .opt c' (spanOf s (1 + l1.length + T.length + l2.length + 1)) ∧
        R (s.adv (1 + l1.length)) c') := by
  intro rest _ s hs f hf
  obtain ⟨f, rfl⟩ : ∃ f', f = f' + 1 := ⟨f - 1, by omega⟩
  have hs' : s.rest = '[' :: (l1 ++ (T ++ (l2 ++ ']' :: rest))) := by rw [hs]; simp
  have hne : ∀ x, x ≠ '[' → ∀ r, s.rest ≠ x :: r := by
    intro x hx r e; rw [hs'] at e; cases e; exact hx rfl
  obtain ⟨s2, e', h1, h2, h3, hE⟩ := brackets_read '[' ']' (by decide +kernel) (by decide +kernel) (by decide +kernel) hl1 hl2 hT h rest s
    hs' f (by omega)
  refine ⟨.opt e' (spanOf s (1 + l1.length + T.length + l2.length + 1)), ?_, e', rfl, hE⟩
  unfold baseP
  rw [nonterm_none s (hne _ (by decide +kernel)), optional_succ, h1]
  simp only
  rw [h2]
  simp only
  rw [h3, show ('[' :: l1 ++ T ++ l2 ++ [']']).length = 1 + l1.length + T.length + l2.length + 1 by simp; omega]
  rfl

end Full

theorem seqLoop_nil : LTs sequenceLoop SCont 0 [] (fun _ es' => es' = .nil) :=
  LTs.nil_of_stop fun f s acc h => sequenceLoop_stop f s acc h.2

theorem altLoop_nil : LTs alternativeLoop ACont 0 [] (fun _ es' => es' = .nil) :=
  LTs.nil_of_stop alternativeLoop_stop

theorem fbLoop_nil : LTs fallbackLoop FCont 0 [] (fun _ es' => es' = .nil) :=
  LTs.nil_of_stop fallbackLoop_stop

theorem bar_layout (s : PState) (l1 l2 X : List Char) (hl1 : IsLayout l1) (hl2 : IsLayout l2) (hX : NBHead X)
    (hs : s.rest = (l1 ++ '|' :: l2) ++ X) :
    (char? '|' (mb0 s)).map mb0 = some (s.adv (l1 ++ '|' :: l2).length) := by
  have hs' : s.rest = l1 ++ '|' :: (l2 ++ X) := by rw [hs]; simp
  have hr1 : (s.adv l1.length).rest = '|' :: (l2 ++ X) := adv_rest_append _ _ _ hs'
  have hr2 : ((s.adv l1.length).adv 1).rest = l2 ++ X := by rw [adv_rest', hr1]; rfl
  rw [mb0_layout s l1 _ hl1 (NBHead_cons _ _ (by decide +kernel)) hs', char?_some '|' _ _ hr1, Option.map_some,
    mb0_layout _ l2 _ hl2 hX hr2, adv_add', adv_add', List.length_append]
  congr 2
  simp only [List.length_cons]; omega

theorem barbar_layout (s : PState) (l1 l2 X : List Char) (hl1 : IsLayout l1) (hl2 : IsLayout l2) (hX : NBHead X)
    (hs : s.rest = (l1 ++ '|' :: '|' :: l2) ++ X) :
    (tag? "||" (mb0 s)).map mb0 = some (s.adv (l1 ++ '|' :: '|' :: l2).length) := by
  have hs' : s.rest = l1 ++ '|' :: '|' :: (l2 ++ X) := by rw [hs]; simp
  have hr1 : (s.adv l1.length).rest = '|' :: '|' :: (l2 ++ X) := adv_rest_append _ _ _ hs'
  have htag : tag? "||" (s.adv l1.length) = some ((s.adv l1.length).adv 2) :=
    tag?_some (cs := ['|', '|']) rfl _ _ hr1
  have hr2 : ((s.adv l1.length).adv 2).rest = l2 ++ X := by rw [adv_rest', hr1]; rfl
  rw [mb0_layout s l1 _ hl1 (NBHead_cons _ _ (by decide +kernel)) hs', htag, Option.map_some,
    mb0_layout _ l2 _ hl2 hX hr2, adv_add', adv_add', List.length_append]
  congr 2
  simp only [List.length_cons]; omega

theorem alt_natives {n1 n2 : Nat} {T1 T2 : List Char} {R1 : PState → Expr → Prop}
    {R2 : PState → ExprL → Prop}
    (h1 : PTs sequence SCont n1 T1 R1) (h2 : LTs alternativeLoop ACont n2 T2 R2)
    (hne : ∀ s es', R2 s es' → ∃ x xs, es' = .cons x xs)
    (hc : ∀ rest, ACont rest → SCont (T2 ++ rest)) :
    PTs alternative ACont (max n1 n2 + 1) (T1 ++ T2)
      (fun s e' => ∃ c1 cs', e' = .alt (.cons c1 cs') (fromRange s (s.adv (T1 ++ T2).length)) ∧
        R1 s c1 ∧ R2 (s.adv T1.length) cs') :=
  altLevel.natives h1 h2 hne hc

theorem fb_natives {n1 n2 : Nat} {T1 T2 : List Char} {R1 : PState → Expr → Prop}
    {R2 : PState → ExprL → Prop}
    (h1 : PTs alternative ACont n1 T1 R1) (h2 : LTs fallbackLoop FCont n2 T2 R2)
    (hne : ∀ s es', R2 s es' → ∃ x xs, es' = .cons x xs)
    (hc : ∀ rest, FCont rest → ACont (T2 ++ rest)) :
    PTs fallback FCont (max n1 n2 + 1) (T1 ++ T2)
      (fun s e' => ∃ c1 cs', e' = .fb (.cons c1 cs') (fromRange s (s.adv (T1 ++ T2).length)) ∧
        R1 s c1 ∧ R2 (s.adv T1.length) cs') :=
  fbLevel.natives h1 h2 hne hc

namespace Full

theorem seqLoop_cons {n1 n2 : Nat} {l T1 T2 : List Char} {R1 : PState → Expr → Prop}
    {R2 : PState → ExprL → Prop} (hl : IsLayout l) (hne : l ≠ []) (hT1 : NBStart T1)
    (h1 : PTs sseod UC n1 T1 R1) (h2 : LTs sequenceLoop SCont n2 T2 R2)
    (hc : ∀ rest, SCont rest → UC (T2 ++ rest)) :
    LTs sequenceLoop SCont (max n1 n2 + 1) (l ++ T1 ++ T2)
      (fun s es' => ∃ e' r', es' = .cons e' r' ∧ R1 (s.adv l.length) e' ∧
        R2 ((s.adv l.length).adv T1.length) r') :=
  seqLevel.cons (fun s X hs => mb1_layout_some s l _ hl hne (hT1.nbh X) hs) h1 h2 hc

theorem altLoop_cons {n1 n2 : Nat} {l1 l2 T1 T2 : List Char} {R1 : PState → Expr → Prop}
    {R2 : PState → ExprL → Prop} (hl1 : IsLayout l1) (hl2 : IsLayout l2) (hT1 : NBStart T1)
    (h1 : PTs sequence SCont n1 T1 R1) (h2 : LTs alternativeLoop ACont n2 T2 R2)
    (hc : ∀ rest, ACont rest → SCont (T2 ++ rest)) :
    LTs alternativeLoop ACont (max n1 n2 + 1) (l1 ++ '|' :: l2 ++ T1 ++ T2)
      (fun s es' => ∃ e' r', es' = .cons e' r' ∧ R1 (s.adv (l1 ++ '|' :: l2).length) e' ∧
        R2 ((s.adv (l1 ++ '|' :: l2).length).adv T1.length) r') :=
  altLevel.cons (fun s X hs => bar_layout s l1 l2 _ hl1 hl2 (hT1.nbh X) hs) h1 h2 hc

theorem fbLoop_cons {n1 n2 : Nat} {l1 l2 T1 T2 : List Char} {R1 : PState → Expr → Prop}
    {R2 : PState → ExprL → Prop} (hl1 : IsLayout l1) (hl2 : IsLayout l2) (hT1 : NBStart T1)
    (h1 : PTs alternative ACont n1 T1 R1) (h2 : LTs fallbackLoop FCont n2 T2 R2)
    (hc : ∀ rest, FCont rest → ACont (T2 ++ rest)) :
    LTs fallbackLoop FCont (max n1 n2 + 1) (l1 ++ '|' :: '|' :: l2 ++ T1 ++ T2)
      (fun s es' => ∃ e' r', es' = .cons e' r' ∧ R1 (s.adv (l1 ++ '|' :: '|' :: l2).length) e' ∧
        R2 ((s.adv (l1 ++ '|' :: '|' :: l2).length).adv T1.length) r') :=
  fbLevel.cons (fun s X hs => barbar_layout s l1 l2 _ hl1 hl2 (hT1.nbh X) hs) h1 h2 hc

theorem wordLoop_nil {C : List Char → Prop} (hC : ∀ r, C r → StopQ r) :
    LTs subwordLoop C 0 [] (fun _ es' => es' = .nil) :=
  LTs.nil_of_stop fun f s acc h => subwordLoop_stopQ f s acc (hC _ h)

theorem wordLoop_cons {C W : List Char → Prop} {n1 n2 : Nat} {T1 T2 : List Char} {R1 : PState → Expr → Prop}
    {R2 : PState → ExprL → Prop} (h1 : PTs unary W n1 T1 R1) (h2 : LTs subwordLoop C n2 T2 R2)
    (hc : ∀ rest, C rest → W (T2 ++ rest)) :
    LTs subwordLoop C (max n1 n2 + 1) (T1 ++ T2)
      (fun s es' => ∃ e' r', es' = .cons e' r' ∧ R1 s e' ∧ R2 (s.adv T1.length) r') := by
  have := wordLevel.cons (S := []) (fun s X _ => by rw [List.length_nil, adv_zero]) h1 h2 hc
  simpa only [List.nil_append, List.length_nil, adv_zero] using this

theorem seq_natives {n1 n2 : Nat} {T1 T2 : List Char} {R1 : PState → Expr → Prop}
    {R2 : PState → ExprL → Prop}
    (h1 : PTs sseod UC n1 T1 R1) (h2 : LTs sequenceLoop SCont n2 T2 R2)
    (hne : ∀ s es', R2 s es' → ∃ x xs, es' = .cons x xs)
    (hc : ∀ rest, SCont rest → UC (T2 ++ rest)) :
    PTs sequence SCont (max n1 n2 + 1) (T1 ++ T2)
      (fun s e' => ∃ c1 cs', e' = .seq (.cons c1 cs') (spanOf s (T1 ++ T2).length) ∧
        R1 s c1 ∧ R2 (s.adv T1.length) cs') :=
  seqLevel.natives h1 h2 hne hc

/-- a word of several factors: the `.sub` node and the `.seq` node under it carry the span of the whole
word; the factors are flattened -/
theorem word_natives {C W : List Char → Prop} {n1 n2 : Nat} {T1 T2 : List Char} {R1 : PState → Expr → Prop}
    {R2 : PState → ExprL → Prop} (h1 : PTs unary W n1 T1 R1) (h2 : LTs subwordLoop C n2 T2 R2)
    (hne : ∀ s es', R2 s es' → ∃ x xs, es' = .cons x xs)
    (hc : ∀ rest, C rest → W (T2 ++ rest)) :
    PTs subwordSeq C (max n1 n2 + 1) (T1 ++ T2)
      (fun s e' => ∃ c1 cs', e' = .sub (.seq (Check.flattenL (.cons c1 cs')) (spanOf s (T1 ++ T2).length)) 0
          (spanOf s (T1 ++ T2).length) ∧ R1 s c1 ∧ R2 (s.adv T1.length) cs') :=
  wordLevel.natives h1 h2 hne hc

def parenAt (l1 l2 : List Char) (b : Nat → Bool) (T : List Char) (k : Nat) : List Char :=
  if b k then parenL l1 l2 T else T

def shiftAt (l1 : List Char) (b : Nat → Bool) (R : PState → Expr → Prop) (k : Nat) : PState → Expr → Prop :=
  fun s e' => R (if b k then s.adv (1 + l1.length) else s) e'

/-- the texts `T k` of an expression are read back at the seven levels `k` (0 `fallback`, 1 `alternative`,
2 `sequence`, 3 `sseod`, 4 under a postfix `...`, 5 under a description, 6 as a factor of a word), the returned
tree satisfying `R k`; `W` is what may follow the expression when it is a factor of a word.  The texts under a
postfix `...` and under a description have fuels of their own: a literal without description is the one
expression that gets parentheses there and nowhere else. -/
structure AllLevels (N N4 N5 : Nat) (W : List Char → Prop) (T : Nat → List Char)
    (R : Nat → PState → Expr → Prop) : Prop where
  p0 : PTs fallback FCont N (T 0) (R 0)
  p1 : PTs alternative ACont N (T 1) (R 1)
  p2 : PTs sequence SCont N (T 2) (R 2)
  p3 : PTs sseod UC N (T 3) (R 3)
  p4 : PTs baseP BCont N4 (T 4) (R 4)
  p5 : PTs subwordSeq UD' N5 (T 5) (R 5)
  p6 : PTs unary W N (T 6) (R 6)

theorem AllLevels.conv {N N4 N5 N' N4' N5' : Nat} {W : List Char → Prop} {T T' : Nat → List Char}
    {R R' : Nat → PState → Expr → Prop} (h : AllLevels N N4 N5 W T R) (hN : N ≤ N') (hN4 : N4 ≤ N4')
    (hN5 : N5 ≤ N5') (hT : ∀ k, T' k = T k) (hR : ∀ k s e', R k s e' → R' k s e') :
    AllLevels N' N4' N5' W T' R' :=
  ⟨((h.p0.mono hN).text (hT 0).symm).imp (hR 0), ((h.p1.mono hN).text (hT 1).symm).imp (hR 1),
    ((h.p2.mono hN).text (hT 2).symm).imp (hR 2), ((h.p3.mono hN).text (hT 3).symm).imp (hR 3),
    ((h.p4.mono hN4).text (hT 4).symm).imp (hR 4), ((h.p5.mono hN5).text (hT 5).symm).imp (hR 5),
    ((h.p6.mono hN).text (hT 6).symm).imp (hR 6)⟩

theorem AllLevels.conv_le {N N' a b : Nat} {W : List Char → Prop} {T T' : Nat → List Char}
    {R R' : Nat → PState → Expr → Prop} (h : AllLevels N N N W T R) (hN : N ≤ N')
    (hT : ∀ k, T' k = T k) (hR : ∀ k s e', R k s e' → R' k s e') : AllLevels N' (N' + a) (N' + b) W T' R' :=
  h.conv hN (Nat.le_add_right_of_le hN) (Nat.le_add_right_of_le hN) hT hR

theorem groupLevels {m : Nat} {P : List Char} {R : PState → Expr → Prop} (hB : PTs baseP Any m P R) :
    PTs unary WD (m + 1) P R ∧ PTs subwordSeq UD' (m + 2) P R ∧ PTs sseod UC (m + 3) P R ∧
    PTs sequence SCont (m + 4) P R ∧ PTs alternative ACont (m + 5) P R ∧ PTs fallback FCont (m + 6) P R := by
  have h6 : PTs unary WD (m + 1) P R := lift_base_unary hB (fun r hr => ⟨trivial, hr⟩)
  have h5 : PTs subwordSeq UD' (m + 2) P R := lift_unary_word h6 (fun r hr => ⟨hr.2, hr.1⟩)
  obtain ⟨h3, h2, h1, h0⟩ := lift_word_top h5 (fun r hr => hr.d')
  exact ⟨h6, h5, h3, h2, h1, h0⟩

theorem asmBase {n : Nat} {T : List Char} {R : PState → Expr → Prop} (h : PTs baseP Any n T R) :
    AllLevels (n + 6) (n + 6) (n + 6) WD (fun _ => T) (fun _ => R) := by
  obtain ⟨h6, h5, h3, h2, h1, h0⟩ := groupLevels h
  exact ⟨h0, h1.mono (by omega), h2.mono (by omega), h3.mono (by omega),
    (h.weaken (fun _ _ => trivial)).mono (by omega), h5.mono (by omega), h6.mono (by omega)⟩

theorem asm0 {n : Nat} {T l1 l2 : List Char} {R : PState → Expr → Prop} (hl1 : IsLayout l1)
    (hl2 : IsLayoutW l2) (hT : NBStart T) (h0 : PTs fallback FCont n T R) :
    AllLevels (n + 6) (n + 6) (n + 6) WD (parenAt l1 l2 (fun k => decide (1 ≤ k)) T)
      (shiftAt l1 (fun k => decide (1 ≤ k)) R) := by
  have hB := paren_reads hl1 hl2 hT h0
  obtain ⟨h6, h5, h3, h2, h1, _⟩ := groupLevels hB
  exact ⟨h0.mono (by omega), h1.mono (by omega), h2.mono (by omega), h3.mono (by omega),
    (hB.weaken (fun _ _ => trivial)).mono (by omega), h5.mono (by omega), h6.mono (by omega)⟩

theorem asm1 {n : Nat} {T l1 l2 : List Char} {R : PState → Expr → Prop} (hl1 : IsLayout l1)
    (hl2 : IsLayoutW l2) (hT : NBStart T) (h1 : PTs alternative ACont n T R) :
    AllLevels (n + 6) (n + 6) (n + 6) WD (parenAt l1 l2 (fun k => decide (2 ≤ k)) T)
      (shiftAt l1 (fun k => decide (2 ≤ k)) R) := by
  have h0 := lift_alt_fb h1
  have hB := paren_reads hl1 hl2 hT h0
  obtain ⟨h6, h5, h3, h2, _, _⟩ := groupLevels hB
  exact ⟨h0.mono (by omega), h1.mono (by omega), h2.mono (by omega), h3.mono (by omega),
    (hB.weaken (fun _ _ => trivial)).mono (by omega), h5.mono (by omega), h6.mono (by omega)⟩

theorem asm2 {n : Nat} {T l1 l2 : List Char} {R : PState → Expr → Prop} (hl1 : IsLayout l1)
    (hl2 : IsLayoutW l2) (hT : NBStart T) (h2 : PTs sequence SCont n T R) :
    AllLevels (n + 6) (n + 6) (n + 6) WD (parenAt l1 l2 (fun k => decide (3 ≤ k)) T)
      (shiftAt l1 (fun k => decide (3 ≤ k)) R) := by
  have h1 := lift_seq_alt h2
  have h0 := lift_alt_fb h1
  have hB := paren_reads hl1 hl2 hT h0
  obtain ⟨h6, h5, h3, _, _, _⟩ := groupLevels hB
  exact ⟨h0.mono (by omega), h1.mono (by omega), h2.mono (by omega), h3.mono (by omega),
    (hB.weaken (fun _ _ => trivial)).mono (by omega), h5.mono (by omega), h6.mono (by omega)⟩

theorem asmD {n : Nat} {T l1 l2 : List Char} {R : PState → Expr → Prop} (hl1 : IsLayout l1)
    (hl2 : IsLayoutW l2) (hT : NBStart T) (h3 : PTs sseod Any n T R) :
    AllLevels (n + 6) (n + 6) (n + 6) WD (parenAt l1 l2 (fun k => decide (4 ≤ k)) T)
      (shiftAt l1 (fun k => decide (4 ≤ k)) R) := by
  have h3' : PTs sseod UC n T R := h3.weaken (fun _ _ => trivial)
  have h2 := lift_descr_seq h3' (fun r hr => hr.uc)
  have h1 := lift_seq_alt h2
  have h0 := lift_alt_fb h1
  have hB := paren_reads hl1 hl2 hT h0
  obtain ⟨h6, h5, _, _, _, _⟩ := groupLevels hB
  exact ⟨h0.mono (by omega), h1.mono (by omega), h2.mono (by omega), h3'.mono (by omega),
    (hB.weaken (fun _ _ => trivial)).mono (by omega), h5.mono (by omega), h6.mono (by omega)⟩

theorem asmUnary {n : Nat} {T l1 l2 : List Char} {R : PState → Expr → Prop} (hl1 : IsLayout l1)
    (hl2 : IsLayoutW l2) (hT : NBStart T) (h6 : PTs unary Any n T R) :
    AllLevels (n + 6) (n + 6) (n + 6) WD (parenAt l1 l2 (fun k => k == 4) T) (shiftAt l1 (fun k => k == 4) R) := by
  have h5 : PTs subwordSeq UD' (n + 1) T R := lift_unary_word h6 (fun r hr => ⟨trivial, hr.1⟩)
  obtain ⟨h3, h2, h1, h0⟩ := lift_word_top h5 (fun r hr => hr.d')
  have hB := paren_reads hl1 hl2 hT h0
  exact ⟨h0.mono (by omega), h1.mono (by omega), h2.mono (by omega), h3.mono (by omega),
    (hB.weaken (fun _ _ => trivial)).mono (by omega), h5.mono (by omega),
    (h6.weaken (fun _ _ => trivial)).mono (by omega)⟩

theorem asmBare {t T l1 l2 : List Char} {R : PState → Expr → Prop} (hl1 : IsLayout l1)
    (hl2 : IsLayoutW l2) (hT : NBStart T) (h : PTs baseP (BL t) 0 T R) :
    AllLevels 6 (6 + if endsDot t then 3 else 0) 9 (WL t)
      (parenAt l1 l2 (fun k => k == 5 || (k == 4 && endsDot t)) T)
      (shiftAt l1 (fun k => k == 5 || (k == 4 && endsDot t)) R) := by
  have h6 : PTs unary (WL t) 1 T R := lift_base_unary h (fun r hr => ⟨hr.1, hr.2⟩)
  have h5 : PTs subwordSeq UC 2 T R := lift_unary_word h6 (fun r hr => ⟨hr.wl t, .inl hr.1⟩)
  obtain ⟨h3, h2, h1, h0⟩ := lift_word_top h5 (fun r hr => hr)
  have hB := paren_reads hl1 hl2 hT h0
  obtain ⟨_, h5', _, _, _, _⟩ := groupLevels hB
  refine ⟨h0.mono (by omega), h1.mono (by omega), h2.mono (by omega), h3.mono (by omega), ?_, h5',
    h6.mono (by omega)⟩
  cases hd : endsDot t
  · simp only [parenAt, Bool.false_eq_true, if_false]
    refine (h.weaken (fun r hr => ⟨hr, .inr ?_⟩)).mono (by omega)
    simpa [endsDot] using hd
  · simp only [parenAt, if_true]
    exact (hB.weaken (fun _ _ => trivial)).mono (by omega)

theorem asmW {n : Nat} {T l1 l2 : List Char} {R : PState → Expr → Prop} (lb : Bool) (hl1 : IsLayout l1)
    (hl2 : IsLayoutW l2) (hT : NBStart T) (h : PTs subwordSeq (AfterWord lb) n T R) :
    AllLevels (n + 7) (n + 7) (n + 7) WD (parenAt l1 l2 (fun k => k == 4 || k == 6 || (k == 5 && lb)) T)
      (shiftAt l1 (fun k => k == 4 || k == 6 || (k == 5 && lb)) R) := by
  obtain ⟨h3, h2, h1, h0⟩ := lift_word_top h (fun r hr => AfterWord.of_uc lb hr)
  have hB := paren_reads hl1 hl2 hT h0
  obtain ⟨h6, h5, _, _, _, _⟩ := groupLevels hB
  refine ⟨h0.mono (by omega), h1.mono (by omega), h2.mono (by omega), h3.mono (by omega),
    (hB.weaken (fun _ _ => trivial)).mono (by omega), ?_, h6.mono (by omega)⟩
  cases lb
  · exact (h.mono (by omega) : PTs subwordSeq UD' (n + 7) T R)
  · exact h5.mono (by omega)

structure AllT' (N : Nat) (W : List Char → Prop) (T0 T1 T2 T3 T4 T5 T6 : List Char) (E : Expr) : Prop where
  p0 : PT fallback FCont N T0 E
  p1 : PT alternative ACont N T1 E
  p2 : PT sequence SCont N T2 E
  p3 : PT sseod UC N T3 E
  p4 : PT baseP BCont N T4 E
  p5 : PT subwordSeq UD N T5 E
  p6 : PT unary W N T6 E

theorem asmParen {n : Nat} {T : List Char} {E : Expr} (hT : NBStart T) (h0 : PT fallback FCont n T E) :
    AllT' (n + 10) WD (paren T) (paren T) (paren T) (paren T) (paren T) (paren T) (paren T) E := by
  have hB : PTs baseP Any (n + 1) (paren T) (fun _ e' => e'.eraseSpans = E) :=
    (paren_reads (R := fun _ e' => e'.eraseSpans = E) IsLayout.nil IsLayoutW.nil hT h0).text
      (by simp [parenL, paren])
  have A := asmBase hB
  exact ⟨A.p0.mono (by omega), A.p1.mono (by omega), A.p2.mono (by omega), A.p3.mono (by omega),
    A.p4.mono (by omega), (A.p5.weaken (fun _ hr => hr.d')).mono (by omega), A.p6.mono (by omega)⟩

end Full

end Complgen.Parse
