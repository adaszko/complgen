/-
C15: warnings are harmless — a definition that is warned about as unused does not take part in the
grammar's meaning: deleting it leaves what the model of check.rs's validation returns unchanged.
-/
import Complgen.Proofs.Order
namespace Complgen.Check

def DefsOf (n : String) (q : Stmt → Bool) : Prop := ∀ st, q st = true → ∃ s shl e, st = .defn n s shl e

def dropWhere (q : Stmt → Bool) (g : Grammar) : Grammar := g.filter fun st => !q st

def isPlainDefOf (n : String) : Stmt → Bool
  | .defn m _ none _ => m == n
  | _ => false

def isSpecDefOf (n : String) (sh : Shell) : Stmt → Bool
  | .defn m _ (some (s, _)) _ => m == n && s == sh.name
  | _ => false

theorem defsOf_plain (n : String) : DefsOf n (isPlainDefOf n) := by
  intro st h
  cases st with
  | call _ _ _ => simp [isPlainDefOf] at h
  | defn m s shl e =>
    cases shl with
    | some p => simp [isPlainDefOf] at h
    | none => simp only [isPlainDefOf, beq_iff_eq] at h; subst h; exact ⟨s, none, e, rfl⟩

theorem defsOf_spec (n : String) (sh : Shell) : DefsOf n (isSpecDefOf n sh) := by
  intro st h
  cases st with
  | call _ _ _ => simp [isSpecDefOf] at h
  | defn m s shl e =>
    cases shl with
    | none => simp [isSpecDefOf] at h
    | some p =>
      obtain ⟨a, b⟩ := p
      simp only [isSpecDefOf, Bool.and_eq_true, beq_iff_eq] at h
      obtain ⟨h1, _⟩ := h
      subst h1; exact ⟨s, some (a, b), e, rfl⟩

theorem pick_dropWhere (sh : Shell) (g : Grammar) (n m : String) (q : Stmt → Bool) (hq : DefsOf n q) (hmn : m ≠ n) :
    Spec.pick sh (dropWhere q g) m = Spec.pick sh g m := by
  have hb : (n == m) = false := by simpa using (Ne.symm hmn)
  refine pick_filter sh g m _ (fun st _ hst => ?_) (fun st _ hst => ?_)
  · obtain ⟨s, shl, e, rfl⟩ := hq st (by simpa using hst)
    cases shl with
    | none => rfl
    | some p =>
      obtain ⟨a, b⟩ := p
      cases e <;> simp [specFor, hb]
  · obtain ⟨s, shl, e, rfl⟩ := hq st (by simpa using hst)
    cases shl with
    | some p => rfl
    | none => simp [plainFor, hb]

def Unmentioned (n : String) (g : Grammar) : Prop := n ∉ Spec.referred g

theorem body_avoids (n : String) (g : Grammar) (hu : Unmentioned n g) (sh : Shell) (m : String) (d : Expr)
    (hp : Spec.pick sh g m = .expr d) : n ∉ Spec.names d := by
  -- `d` is the body of a plain definition of the grammar
  obtain ⟨st, hst, hf⟩ := List.exists_of_findSome?_eq_some (plainFor_of_pick_expr sh g m d hp)
  intro hn
  apply hu
  unfold Spec.referred
  refine List.mem_flatMap.mpr ⟨st, hst, ?_⟩
  cases st with
  | call _ _ _ => simp [plainFor] at hf
  | defn k s shl e =>
    cases shl with
    | some p => simp [plainFor] at hf
    | none =>
      simp only [plainFor] at hf
      split at hf
      · cases hf; exact hn
      · cases hf

/-- expansion never meets an unmentioned name, so the definitions of that name are irrelevant to it -/
theorem expand_dropWhere (sh : Shell) (g : Grammar) (n : String) (q : Stmt → Bool) (hq : DefsOf n q)
    (hu : Unmentioned n g) (k : Nat) (e : Expr) (hn : n ∉ Spec.names e) :
    Spec.expand sh (dropWhere q g) k e = Spec.expand sh g k e :=
  (expand_congr_on sh g (dropWhere q g) (· ≠ n) (fun m hm => pick_dropWhere sh g n m q hq hm)
    (fun m d _ hp x hx hxn => body_avoids n g hu sh m d hp (by
      rw [← distr_eq_spec, distr_names] at hx
      exact hxn ▸ hx)) k).1 e fun m hm hmn => hn (hmn ▸ hm)

theorem expand_stable (g : Grammar) (sh : Shell) (v : Valid) (h : validate g sh = .ok v) (e : Expr)
    (hd : NoDD e = true) (k1 k2 : Nat)
    (h1 : depth e + ((plainDefs g).map fun x => 2 * Spec.size x.2.2).sum ≤ k1)
    (h2 : depth e + ((plainDefs g).map fun x => 2 * Spec.size x.2.2).sum ≤ k2) :
    Spec.expand sh g k1 e = Spec.expand sh g k2 e := by
  obtain ⟨_, w, hcyc, _⟩ := accepted_real g sh v h
  obtain ⟨order, hro⟩ := resolutionOrder_ok_of_acyclic g sh hcyc
  rw [expansion_correct sh g order w.plain hro e hd [] [] k1 h1, expansion_correct sh g order w.plain hro e hd [] [] k2 h2]

theorem callsOf_dropWhere (n : String) (q : Stmt → Bool) (hq : DefsOf n q) (g : Grammar) :
    callsOf (dropWhere q g) = callsOf g := by
  unfold callsOf dropWhere
  apply filterMap_filter_irrelevant
  intro st _ hst
  obtain ⟨s, shl, e, rfl⟩ := hq st (by simpa using hst)
  rfl

theorem topOf_dropWhere (sp : Span) (n : String) (q : Stmt → Bool) (hq : DefsOf n q) (g : Grammar) :
    Spec.topOf sp (dropWhere q g) = Spec.topOf sp g := by
  unfold Spec.topOf
  rw [spec_calls, spec_calls, callsOf_dropWhere n q hq]

theorem topOf_names_referred (g : Grammar) (x : String) (h : x ∈ Spec.names (Spec.topOf (topSpan g) g)) :
    x ∈ Spec.referred g := by
  rw [spec_top] at h
  obtain ⟨c, hc, hx⟩ := (topExpr_names g x).mp h
  obtain ⟨cn, cs, ce⟩ := c
  unfold Spec.referred
  exact List.mem_flatMap.mpr ⟨_, (mem_callsOf g cn cs ce).mp hc, hx⟩

/-- **A definition nobody mentions is harmless**: when no statement mentions `n`, deleting definitions
of `n` — the plain one, the one for the target shell, any — does not change the validated expression
(hence neither the automaton nor any script), whenever the model accepts both grammars. -/
theorem validate_dropWhere (g : Grammar) (sh : Shell) (n : String) (q : Stmt → Bool) (hq : DefsOf n q)
    (v v' : Valid) (hu : Unmentioned n g)
    (h : validate g sh = .ok v) (h' : validate (dropWhere q g) sh = .ok v') : v'.expr = v.expr := by
  rw [validate_expr_eq_meaning g sh v h, validate_expr_eq_meaning (dropWhere q g) sh v' h']
  have hts : topSpan (dropWhere q g) = topSpan g := by unfold topSpan; rw [callsOf_dropWhere n q hq]
  rw [hts]
  rw [meaningAt_eq, meaningAt_eq, topOf_dropWhere _ n q hq]
  generalize hA : ((dropWhere q g).map stmtSize).sum = A
  generalize hB : (g.map stmtSize).sum = B
  -- both fuels are enough for both grammars' expansions of the call variants
  have hd0 : NoDD (Spec.distr (Spec.topOf (topSpan g) g) none).1 = true := by
    rw [← distr_eq_spec]; exact distr_noDD _ none
  have hfB : depth (Spec.distr (Spec.topOf (topSpan g) g) none).1 +
      ((plainDefs g).map fun x => 2 * Spec.size x.2.2).sum ≤ 2 * B + 8 := by
    have := fuel_enough_sum g
    rw [← spec_top, distribute_eq_spec] at this
    rw [← hB]; exact this
  have hfA : depth (Spec.distr (Spec.topOf (topSpan g) g) none).1 +
      ((plainDefs (dropWhere q g)).map fun x => 2 * Spec.size x.2.2).sum ≤ 2 * A + 8 := by
    have := fuel_enough_sum (dropWhere q g)
    rw [← spec_top, distribute_eq_spec, hts, topOf_dropWhere _ n q hq] at this
    rw [← hA]; exact this
  have hnames : n ∉ Spec.names (Spec.distr (Spec.topOf (topSpan g) g) none).1 := by
    have hnm : Spec.names (Spec.distr (Spec.topOf (topSpan g) g) none).1 = Spec.names (Spec.topOf (topSpan g) g) := by
      rw [← distr_eq_spec]; exact distr_names _ none
    rw [hnm]
    intro hx; exact hu (topOf_names_referred g n hx)
  -- lift both to a common fuel
  have e1 := expand_stable g sh v h _ hd0 (2 * B + 8) (2 * B + 8 + (2 * A + 8)) hfB (by omega)
  have e2 := expand_stable (dropWhere q g) sh v' h' _ hd0 (2 * A + 8) (2 * B + 8 + (2 * A + 8)) hfA (by omega)
  rw [e1, e2, expand_dropWhere sh g n q hq hu _ _ hnames]

end Complgen.Check
