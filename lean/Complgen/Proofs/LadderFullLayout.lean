/-
C05 (operator ladder): the printers with *arbitrary* blanks and comments wherever the syntax allows them.

Positions (`Layout`, one string for every position of every node, addressed by the path from the root):
`sep` between two items of a sequence (non-empty, `IsLayoutW`), `barL`/`barR` before/after `|` and `||`
(`IsLayoutW` / `IsLayout`), `opn` after `[` and `(` (`IsLayout`), `cls` before `]` and `)`
(`IsLayoutW`), `dots` before a postfix `...` (`IsLayoutW`).  `Layout'` has one more, `descr`: before the `"`
of a description, both the description of a literal (`lit "d"`) and the description distributed over a group
(`(a | b) "d"`).  The parser skips `multiblanks0` there (`optDescription`), so the stretch may be empty
(`a"d"`, `<X>"d"`); like every stretch that stands directly after a word it must not begin with `#`
(`IsLayoutW`: `#` is a regular character of literals, `descr_hash_literal`, `descr_hash_group` at the end of
the file).  Inside a word (juxtaposition) no layout may stand: a blank there makes two items of a sequence
(`blank_in_word`).

`ppL lay` prints the trees of `NF`, `ppL' lay` those of `NF'`; the plain printers are the instances
`plainLayout` (`pp_eq_ppL`) and `plainLayout'` (`ppL'_plain`), and `ppL` is the instance `Layout'.ofLayout`
of `ppL'` (`ppL'_ofLayout`).

Fuel.  `needG` is what the descent uses: 6 for an atom, 6 or 7 for every node above it, 1 for every item of a
list passed, 3 for the parentheses a literal without description gets under a description and, when it ends
with a dot, under a postfix `...`.  The measures the statements speak of are bounds of it: `needF` (every
literal without description counted with its parentheses: 9; `needG_le_needF`), `fuelNeeded`
(`needF_le_fuelNeeded`), and on the smaller fragment `need` (`needG_le_need`), the one `Grammar::parse` can
afford.

What reading the text back needs to know of it, whatever the layout (`Heads`, `heads`): its first character,
and that no `...` is read across its end; from these, what follows an item of a list or a factor of a word is
of the class its level asks for (`tail*_contL`).
-/
import Complgen.Proofs.LadderFull
namespace Complgen.Parse

/-- a node is addressed by the path from the root: `0` goes to the only child / to the list of children /
to the head of a list, `1` to the tail of a list -/
structure Layout where
  sep : List Nat → List Char
  barL : List Nat → List Char
  barR : List Nat → List Char
  opn : List Nat → List Char
  cls : List Nat → List Char
  dots : List Nat → List Char

def Layout.sub (lay : Layout) (i : Nat) : Layout :=
  ⟨fun p => lay.sep (i :: p), fun p => lay.barL (i :: p), fun p => lay.barR (i :: p),
   fun p => lay.opn (i :: p), fun p => lay.cls (i :: p), fun p => lay.dots (i :: p)⟩

structure Layout.Adm (lay : Layout) : Prop where
  sep : ∀ p, IsLayoutW (lay.sep p) ∧ lay.sep p ≠ []
  barL : ∀ p, IsLayoutW (lay.barL p)
  barR : ∀ p, IsLayout (lay.barR p)
  opn : ∀ p, IsLayout (lay.opn p)
  cls : ∀ p, IsLayoutW (lay.cls p)
  dots : ∀ p, IsLayoutW (lay.dots p)

theorem Layout.Adm.sub {lay : Layout} (h : lay.Adm) (i : Nat) : (lay.sub i).Adm :=
  ⟨fun p => h.sep (i :: p), fun p => h.barL (i :: p), fun p => h.barR (i :: p),
   fun p => h.opn (i :: p), fun p => h.cls (i :: p), fun p => h.dots (i :: p)⟩

def parenIfL (lay : Layout) (b : Bool) (T : List Char) : List Char :=
  if b then parenL (lay.opn []) (lay.cls []) T else T

def sepL (lay : Layout) : Nat → List Char
  | 3 => lay.sep []
  | 2 => lay.barL [] ++ '|' :: lay.barR []
  | _ => lay.barL [] ++ '|' :: '|' :: lay.barR []

mutual
def ppL : Layout → Nat → Expr → List Char
  | _, _, .term t _ _ _ => t.toList
  | _, _, .nonterm n _ _ => '<' :: n.toList ++ ['>']
  | _, _, .cmd c _ _ _ => cmdText c.toList
  | lay, ctx, .seq cs _ => parenIfL lay (decide (3 ≤ ctx)) (ppListL (lay.sub 0) 3 cs)
  | lay, ctx, .alt cs _ => parenIfL lay (decide (2 ≤ ctx)) (ppListL (lay.sub 0) 2 cs)
  | lay, ctx, .fb cs _ => parenIfL lay (decide (1 ≤ ctx)) (ppListL (lay.sub 0) 1 cs)
  | lay, _, .opt c _ => '[' :: lay.opn [] ++ ppL (lay.sub 0) 0 c ++ lay.cls [] ++ [']']
  | lay, ctx, .many1 c _ =>
    parenIfL lay (decide (4 ≤ ctx)) (ppL (lay.sub 0) 4 c ++ lay.dots [] ++ ['.', '.', '.'])
  | _, _, .dd _ _ _ => []
  | _, _, .sub _ _ _ => []
def ppListL : Layout → Nat → ExprL → List Char
  | _, _, .nil => []
  | lay, ctx, .cons e es => ppL (lay.sub 0) ctx e ++ ppTailL (lay.sub 1) ctx es
def ppTailL : Layout → Nat → ExprL → List Char
  | _, _, .nil => []
  | lay, ctx, .cons e es => sepL lay ctx ++ ppL (lay.sub 0) ctx e ++ ppTailL (lay.sub 1) ctx es
end

def plainLayout : Layout :=
  ⟨fun _ => [' '], fun _ => [' '], fun _ => [' '], fun _ => [], fun _ => [], fun _ => []⟩

theorem plainLayout_sub (i : Nat) : plainLayout.sub i = plainLayout := rfl

theorem plainLayout_adm : plainLayout.Adm :=
  ⟨fun _ => ⟨⟨show IsLayout [' '] by decide, fun r e => by cases e⟩, by simp [plainLayout]⟩,
   fun _ => ⟨show IsLayout [' '] by decide, fun r e => by cases e⟩, fun _ => show IsLayout [' '] by decide,
   fun _ => rfl,
   fun _ => IsLayoutW.nil, fun _ => IsLayoutW.nil⟩

theorem parenIfL_plain (b : Bool) (T : List Char) : parenIfL plainLayout b T = parenIf b T := by
  cases b <;> simp [parenIfL, parenIf, parenL, plainLayout]

theorem pp_eq_ppL_aux (e : Expr) : ∀ ctx, pp ctx e = ppL plainLayout ctx e := by
  refine Expr.rec (motive_1 := fun e => ∀ ctx, pp ctx e = ppL plainLayout ctx e)
    (motive_2 := fun es =>
      (ppList 3 sepS es = ppListL plainLayout 3 es ∧ ppTail 3 sepS es = ppTailL plainLayout 3 es) ∧
      (ppList 2 sepA es = ppListL plainLayout 2 es ∧ ppTail 2 sepA es = ppTailL plainLayout 2 es) ∧
      (ppList 1 sepF es = ppListL plainLayout 1 es ∧ ppTail 1 sepF es = ppTailL plainLayout 1 es))
    ?_ ?_ ?_ ?_ ?_ ?_ ?_ ?_ ?_ ?_ ?_ ?_ e
  · intro t d l sp ctx; simp only [pp, ppL]
  · intro n l sp ctx; simp only [pp, ppL]
  · intro c a l sp ctx; simp only [pp, ppL]
  · intro cs sp ih ctx; simp only [pp, ppL, plainLayout_sub, parenIfL_plain, ih.1.1]
  · intro cs sp ih ctx; simp only [pp, ppL, plainLayout_sub, parenIfL_plain, ih.2.1.1]
  · intro cs sp ih ctx; simp only [pp, ppL, plainLayout_sub, parenIfL_plain, ih.2.2.1]
  · intro c sp ih ctx
    simp only [pp, ppL, plainLayout_sub, ih 0]
    simp [plainLayout]
  · intro c sp ih ctx
    simp only [pp, ppL, plainLayout_sub, parenIfL_plain, ih 4]
    simp [plainLayout]
  · intro c d sp _ ctx; simp only [pp, ppL]
  · intro c l sp _ ctx; simp only [pp, ppL]
  · simp [ppList, ppTail, ppListL, ppTailL]
  · intro e es ihe ihes
    simp only [ppList, ppTail, ppListL, ppTailL, plainLayout_sub, ihe, ihes.1.2, ihes.2.1.2, ihes.2.2.2]
    simp [sepL, sepS, sepA, sepF, plainLayout]

theorem pp_eq_ppL (ctx : Nat) (e : Expr) : pp ctx e = ppL plainLayout ctx e := pp_eq_ppL_aux e ctx

mutual
/-- fuel that the ladder needs for a printed tree of the smaller fragment: 6 for the descent to an atom, 6 or
7 for every node above it, 1 for every item of a list read before the descent goes on.  `Grammar::parse` gives
the ladder `fuelFor n = 10 * n + 20` units for an input of `n` characters, and `fuelNeeded e = 10 * size e` can
exceed that: `c a b | c d || a b | c d;` has 25 characters, hence 270 units, and its tree has size 29
(`exDeep` in `Proofs/SpansFile.lean`); `need` does not. -/
def need : Expr → Nat
  | .term _ _ _ _ => 6
  | .nonterm _ _ _ => 6
  | .cmd _ _ _ _ => 6
  | .seq cs _ => needL cs + 6
  | .alt cs _ => needL cs + 6
  | .fb cs _ => needL cs + 6
  | .opt c _ => need c + 7
  | .many1 c _ => need c + 7
  | .dd c _ _ => need c + 7
  | .sub c _ _ => need c + 7
def needL : ExprL → Nat
  | .nil => 0
  | .cons e es => max (need e) (needL es) + 1
end

mutual
theorem need_le_size : ∀ e : Expr, need e ≤ 10 * size e
  | .term _ _ _ _ => by simp [need, size]
  | .nonterm _ _ _ => by simp [need, size]
  | .cmd _ _ _ _ => by simp [need, size]
  | .seq cs _ => by have := needL_le_sizeL cs; simp only [need, size]; omega
  | .alt cs _ => by have := needL_le_sizeL cs; simp only [need, size]; omega
  | .fb cs _ => by have := needL_le_sizeL cs; simp only [need, size]; omega
  | .opt c _ => by have := need_le_size c; simp only [need, size]; omega
  | .many1 c _ => by have := need_le_size c; simp only [need, size]; omega
  | .dd c _ _ => by have := need_le_size c; simp only [need, size]; omega
  | .sub c _ _ => by have := need_le_size c; simp only [need, size]; omega
theorem needL_le_sizeL : ∀ es : ExprL, needL es ≤ 10 * sizeL es
  | .nil => by simp [needL, sizeL]
  | .cons e es => by
    have := need_le_size e; have := needL_le_sizeL es; simp only [needL, sizeL]; omega
end

theorem need_le_fuelNeeded (e : Expr) : need e ≤ fuelNeeded e := need_le_size e

namespace Full

structure Layout' where
  sep : List Nat → List Char
  barL : List Nat → List Char
  barR : List Nat → List Char
  opn : List Nat → List Char
  cls : List Nat → List Char
  dots : List Nat → List Char
  descr : List Nat → List Char

def Layout'.sub (lay : Layout') (i : Nat) : Layout' :=
  ⟨fun p => lay.sep (i :: p), fun p => lay.barL (i :: p), fun p => lay.barR (i :: p),
   fun p => lay.opn (i :: p), fun p => lay.cls (i :: p), fun p => lay.dots (i :: p),
   fun p => lay.descr (i :: p)⟩

structure Layout'.Adm (lay : Layout') : Prop where
  sep : ∀ p, IsLayoutW (lay.sep p) ∧ lay.sep p ≠ []
  barL : ∀ p, IsLayoutW (lay.barL p)
  barR : ∀ p, IsLayout (lay.barR p)
  opn : ∀ p, IsLayout (lay.opn p)
  cls : ∀ p, IsLayoutW (lay.cls p)
  dots : ∀ p, IsLayoutW (lay.dots p)
  descr : ∀ p, IsLayoutW (lay.descr p)

theorem Layout'.Adm.sub {lay : Layout'} (h : lay.Adm) (i : Nat) : (lay.sub i).Adm :=
  ⟨fun p => h.sep (i :: p), fun p => h.barL (i :: p), fun p => h.barR (i :: p),
   fun p => h.opn (i :: p), fun p => h.cls (i :: p), fun p => h.dots (i :: p),
   fun p => h.descr (i :: p)⟩

def Layout'.ofLayout (lay : Layout) (d : List Nat → List Char) : Layout' :=
  ⟨lay.sep, lay.barL, lay.barR, lay.opn, lay.cls, lay.dots, d⟩

def Layout'.toLayout (lay : Layout') : Layout := ⟨lay.sep, lay.barL, lay.barR, lay.opn, lay.cls, lay.dots⟩

theorem Layout'.Adm.toLayout {lay : Layout'} (h : lay.Adm) : lay.toLayout.Adm :=
  ⟨h.sep, h.barL, h.barR, h.opn, h.cls, h.dots⟩

theorem Layout'.ofLayout_adm {lay : Layout} (h : lay.Adm) {d : List Nat → List Char}
    (hd : ∀ p, IsLayoutW (d p)) : (Layout'.ofLayout lay d).Adm :=
  ⟨h.sep, h.barL, h.barR, h.opn, h.cls, h.dots, hd⟩

def parenIfL' (lay : Layout') (b : Bool) (T : List Char) : List Char :=
  if b then parenL (lay.opn []) (lay.cls []) T else T

def sepL' (lay : Layout') : Nat → List Char
  | 3 => lay.sep []
  | 2 => lay.barL [] ++ '|' :: lay.barR []
  | 1 => lay.barL [] ++ '|' :: '|' :: lay.barR []
  | _ => []

mutual
def ppL' : Layout' → Nat → Expr → List Char
  | lay, ctx, .term t none _ _ =>
    parenIfL' lay (ctx == 5 || (ctx == 4 && endsDot t.toList)) (escT 0 t.toList)
  | lay, _, .term t (some d) _ _ => escT 0 t.toList ++ descrTextL (lay.descr []) d.toList
  | _, _, .nonterm n _ _ => '<' :: n.toList ++ ['>']
  | _, _, .cmd c _ _ _ => cmdText c.toList
  | lay, ctx, .seq cs _ => parenIfL' lay (decide (3 ≤ ctx)) (ppListL' (lay.sub 0) 3 cs)
  | lay, ctx, .alt cs _ => parenIfL' lay (decide (2 ≤ ctx)) (ppListL' (lay.sub 0) 2 cs)
  | lay, ctx, .fb cs _ => parenIfL' lay (decide (1 ≤ ctx)) (ppListL' (lay.sub 0) 1 cs)
  | lay, _, .opt c _ => '[' :: lay.opn [] ++ ppL' (lay.sub 0) 0 c ++ lay.cls [] ++ [']']
  | lay, ctx, .many1 c _ =>
    parenIfL' lay (ctx == 4) (ppL' (lay.sub 0) 4 c ++ lay.dots [] ++ ['.', '.', '.'])
  | lay, ctx, .dd c d _ =>
    parenIfL' lay (decide (4 ≤ ctx)) (ppL' (lay.sub 0) 5 c ++ descrTextL (lay.descr []) d.toList)
  | lay, ctx, .sub (.seq fs _) _ _ =>
    parenIfL' lay (ctx == 4 || ctx == 6 || (ctx == 5 && lastBare false fs)) (ppListL' (lay.sub 0) 6 fs)
  | _, _, .sub _ _ _ => []
def ppListL' : Layout' → Nat → ExprL → List Char
  | _, _, .nil => []
  | lay, ctx, .cons e es => ppL' (lay.sub 0) ctx e ++ ppTailL' (lay.sub 1) ctx es
def ppTailL' : Layout' → Nat → ExprL → List Char
  | _, _, .nil => []
  | lay, ctx, .cons e es => sepL' lay ctx ++ ppL' (lay.sub 0) ctx e ++ ppTailL' (lay.sub 1) ctx es
end

theorem ppL'_bare (lay : Layout') (k : Nat) (t : String) (l : Nat) (sp : Span) :
    ppL' lay k (.term t none l sp) =
      parenIfL' lay (k == 5 || (k == 4 && endsDot t.toList)) (escT 0 t.toList) := by rw [ppL']

theorem ppL'_descr (lay : Layout') (k : Nat) (t d : String) (l : Nat) (sp : Span) :
    ppL' lay k (.term t (some d) l sp) = escT 0 t.toList ++ descrTextL (lay.descr []) d.toList := by
  rw [ppL']

theorem ppL'_sub (lay : Layout') (k : Nat) (fs : ExprL) (sp1 : Span) (l : Nat) (sp : Span) :
    ppL' lay k (.sub (.seq fs sp1) l sp) =
      parenIfL' lay (k == 4 || k == 6 || (k == 5 && lastBare false fs)) (ppListL' (lay.sub 0) 6 fs) := by
  rw [ppL']

mutual
def needF : Expr → Nat
  | .term _ none _ _ => 9
  | .term _ (some _) _ _ => 6
  | .nonterm _ _ _ => 6
  | .cmd _ _ _ _ => 6
  | .seq cs _ => needFL cs + 6
  | .alt cs _ => needFL cs + 6
  | .fb cs _ => needFL cs + 6
  | .opt c _ => needF c + 7
  | .many1 c _ => needF c + 7
  | .dd c _ _ => needF c + 7
  | .sub c _ _ => needF c + 1
def needFL : ExprL → Nat
  | .nil => 0
  | .cons e es => max (needF e) (needFL es) + 1
end

mutual
theorem needF_le_size : ∀ e : Expr, needF e ≤ 10 * size e
  | .term _ none _ _ => by simp [needF, size]
  | .term _ (some _) _ _ => by simp [needF, size]
  | .nonterm _ _ _ => by simp [needF, size]
  | .cmd _ _ _ _ => by simp [needF, size]
  | .seq cs _ => by have := needFL_le_sizeL cs; simp only [needF, size]; omega
  | .alt cs _ => by have := needFL_le_sizeL cs; simp only [needF, size]; omega
  | .fb cs _ => by have := needFL_le_sizeL cs; simp only [needF, size]; omega
  | .opt c _ => by have := needF_le_size c; simp only [needF, size]; omega
  | .many1 c _ => by have := needF_le_size c; simp only [needF, size]; omega
  | .dd c _ _ => by have := needF_le_size c; simp only [needF, size]; omega
  | .sub c _ _ => by have := needF_le_size c; simp only [needF, size]; omega
theorem needFL_le_sizeL : ∀ es : ExprL, needFL es ≤ 10 * sizeL es
  | .nil => by simp [needFL, sizeL]
  | .cons e es => by
    have := needF_le_size e; have := needFL_le_sizeL es; simp only [needFL, sizeL]; omega
end

theorem needF_le_fuelNeeded (e : Expr) : needF e ≤ fuelNeeded e := needF_le_size e

/-- what the parentheses cost that a literal ending with a dot gets under a postfix `...` (`(a.)...`) -/
def parenCost4 : Expr → Nat
  | .term t none _ _ => if endsDot t.toList then 3 else 0
  | _ => 0

/-- what the parentheses cost that a literal without description gets under a description (`(a) "d"`) -/
def parenCost5 (e : Expr) : Nat := if bare e then 3 else 0

mutual
/-- the fuel the ladder uses for a printed tree of the larger fragment: 6 for the descent to an atom, 6 or 7
for every node above it, 1 for every item of a list read before the descent goes on, 3 for the parentheses a
literal gets under a description or a postfix `...` -/
def needG : Expr → Nat
  | .term _ _ _ _ => 6
  | .nonterm _ _ _ => 6
  | .cmd _ _ _ _ => 6
  | .seq cs _ => needGL cs + 6
  | .alt cs _ => needGL cs + 6
  | .fb cs _ => needGL cs + 6
  | .opt c _ => needG c + 7
  | .many1 c _ => needG c + parenCost4 c + 7
  | .dd c _ _ => needG c + parenCost5 c + 7
  | .sub c _ _ => needG c + 1
def needGL : ExprL → Nat
  | .nil => 0
  | .cons e es => max (needG e) (needGL es) + 1
end


theorem parenCost4_le_parenCost5 : ∀ e : Expr, parenCost4 e ≤ parenCost5 e
  | .term _ none _ _ => by simp only [parenCost4, parenCost5, bare]; split <;> simp
  | .term _ (some _) _ _ | .nonterm .. | .cmd .. | .seq .. | .alt .. | .fb .. | .opt .. | .many1 .. | .dd ..
  | .sub .. => Nat.zero_le _

mutual
theorem needG_add_le_needF : ∀ e : Expr, needG e + parenCost5 e ≤ needF e
  | .term _ none _ _ => by simp [needG, needF, parenCost5, bare]
  | .term _ (some _) _ _ => by simp [needG, needF, parenCost5, bare]
  | .nonterm _ _ _ => by simp [needG, needF, parenCost5, bare]
  | .cmd _ _ _ _ => by simp [needG, needF, parenCost5, bare]
  | .seq cs _ => by have := needGL_le_needFL cs; show needGL cs + 6 + 0 ≤ needFL cs + 6; omega
  | .alt cs _ => by have := needGL_le_needFL cs; show needGL cs + 6 + 0 ≤ needFL cs + 6; omega
  | .fb cs _ => by have := needGL_le_needFL cs; show needGL cs + 6 + 0 ≤ needFL cs + 6; omega
  | .opt c _ => by have := needG_add_le_needF c; show needG c + 7 + 0 ≤ needF c + 7; omega
  | .many1 c _ => by
    have := needG_add_le_needF c; have := parenCost4_le_parenCost5 c
    show needG c + parenCost4 c + 7 + 0 ≤ needF c + 7; omega
  | .dd c _ _ => by have := needG_add_le_needF c; show needG c + parenCost5 c + 7 + 0 ≤ needF c + 7; omega
  | .sub c _ _ => by have := needG_add_le_needF c; show needG c + 1 + 0 ≤ needF c + 1; omega
theorem needGL_le_needFL : ∀ es : ExprL, needGL es ≤ needFL es
  | .nil => Nat.le_refl _
  | .cons e es => by
    have := needG_add_le_needF e; have := needGL_le_needFL es; simp only [needGL, needFL]; omega
end

theorem needG_le_needF (e : Expr) : needG e ≤ needF e :=
  Nat.le_trans (Nat.le_add_right _ _) (needG_add_le_needF e)

theorem parenCost4_NF : ∀ e : Expr, NF e → parenCost4 e = 0
  | .term t none _ _, h => by
    simp only [NF] at h
    simp [parenCost4, endsDot_regular _ h.2.2.2.1]
  | .term _ (some _) _ _, _ | .nonterm .., _ | .cmd .., _ | .seq .., _ | .alt .., _ | .fb .., _ | .opt .., _
  | .many1 .., _ | .dd .., _ | .sub .., _ => rfl

mutual
/-- on the smaller fragment no literal ends with a dot and nothing has a description: `need` is enough -/
theorem needG_le_need : ∀ e : Expr, NF e → needG e ≤ need e
  | .term _ _ _ _, _ => Nat.le_refl _
  | .nonterm _ _ _, _ => Nat.le_refl _
  | .cmd _ _ _ _, _ => Nat.le_refl _
  | .seq cs _, h => by simp only [NF] at h; have := needGL_le_needL cs h.2; simp only [needG, need]; omega
  | .alt cs _, h => by simp only [NF] at h; have := needGL_le_needL cs h.2; simp only [needG, need]; omega
  | .fb cs _, h => by simp only [NF] at h; have := needGL_le_needL cs h.2; simp only [needG, need]; omega
  | .opt c _, h => by simp only [NF] at h; have := needG_le_need c h; simp only [needG, need]; omega
  | .many1 c _, h => by
    simp only [NF] at h
    have := needG_le_need c h
    simp only [needG, need, parenCost4_NF c h]; omega
  | .dd _ _ _, h => by simp [NF] at h
  | .sub _ _ _, h => by simp [NF] at h
theorem needGL_le_needL : ∀ es : ExprL, NFL es → needGL es ≤ needL es
  | .nil, _ => Nat.le_refl _
  | .cons e es, h => by
    simp only [NFL] at h
    have := needG_le_need e h.1; have := needGL_le_needL es h.2; simp only [needGL, needL]; omega
end

def SameHead (T T' : List Char) : Prop :=
  ∃ c r r', T = c :: r ∧ T' = c :: r' ∧ notBlank c = true ∧ c ≠ '"'

theorem SameHead.starts {T T' : List Char} (h : SameHead T T') : Starts T := by
  obtain ⟨c, r, _, e, _, h1, h2⟩ := h; exact ⟨c, r, e, h1, h2⟩

theorem SameHead.nb {T T' : List Char} (h : SameHead T T') : NBStart T := h.starts.nb

theorem SameHead.append {T T' : List Char} (h : SameHead T T') (X Y : List Char) :
    SameHead (T ++ X) (T' ++ Y) := by
  obtain ⟨c, r, r', rfl, rfl, h1, h2⟩ := h
  exact ⟨c, r ++ X, r' ++ Y, rfl, rfl, h1, h2⟩

theorem SameHead.of_starts {T : List Char} (h : Starts T) : SameHead T T := by
  obtain ⟨c, r, e, h1, h2⟩ := h; exact ⟨c, r, r, e, e, h1, h2⟩

theorem SameHead.parenIf {T T' : List Char} (h : SameHead T T') (lay : Layout') (b : Bool) :
    SameHead (parenIfL' lay b T) (parenIf b T') := by
  cases b
  · exact h
  · exact ⟨'(', lay.opn [] ++ T ++ lay.cls [] ++ [')'], T' ++ [')'], by simp [parenIfL', parenL],
      by simp [Parse.parenIf], by decide, by decide⟩

theorem dots3_parenIfL' (lay : Layout') (b : Bool) (T X : List Char) (h : dots3 (T ++ X) = false) :
    dots3 (parenIfL' lay b T ++ X) = false := by
  cases b
  · exact h
  · have : parenIfL' lay true T ++ X = '(' :: (lay.opn [] ++ T ++ lay.cls [] ++ [')'] ++ X) := by
      simp [parenIfL', parenL]
    rw [this]; exact dots3_cons_ne _ _ (by decide)

theorem notDot_descr (l d X : List Char) (hl : IsLayoutW l) : NotDotHead (descrTextL l d ++ X) := by
  have e : descrTextL l d ++ X = l ++ '"' :: (escD d ++ '"' :: X) := by simp [descrTextL]
  rw [e]; exact hl.notDot (notDot_quote _)

theorem tailS_notDotL (es : ExprL) (lay : Layout') (adm : lay.Adm) (rest : List Char) (hrest : SCont rest) :
    NotDotHead (ppTailL' lay 3 es ++ rest) := by
  cases es with
  | nil => simpa [ppTailL'] using hrest.1.notDot
  | cons e es' =>
    have := (adm.sep []).1.notDot_ne (adm.sep []).2
      (ppL' (lay.sub 0) 3 e ++ (ppTailL' (lay.sub 1) 3 es' ++ rest))
    simpa [ppTailL', sepL'] using this

theorem tail_notDotL (lay : Layout') (adm : lay.Adm) (k : Nat) (hk : k = 1 ∨ k = 2 ∨ k = 3) (e : Expr)
    (es : ExprL) (X : List Char) : NotDotHead (ppTailL' lay k (.cons e es) ++ X) := by
  rcases hk with rfl | rfl | rfl
  · have := (adm.barL []).notDot
      (notDot_bar ('|' :: (lay.barR [] ++ (ppL' (lay.sub 0) 1 e ++ (ppTailL' (lay.sub 1) 1 es ++ X)))))
    simpa [ppTailL', sepL'] using this
  · have := (adm.barL []).notDot
      (notDot_bar (lay.barR [] ++ (ppL' (lay.sub 0) 2 e ++ (ppTailL' (lay.sub 1) 2 es ++ X))))
    simpa [ppTailL', sepL'] using this
  · have := (adm.sep []).1.notDot_ne (adm.sep []).2
      (ppL' (lay.sub 0) 3 e ++ (ppTailL' (lay.sub 1) 3 es ++ X))
    simpa [ppTailL', sepL'] using this

theorem UC_layout (l T X : List Char) (hl : IsLayoutW l) (hne : l ≠ []) (hT : Starts T)
    (hd : dots3 (T ++ X) = false) : UC (l ++ T ++ X) := by
  obtain ⟨c, r, rfl, h1, h2⟩ := hT
  have hab : afterBlanks (l ++ (c :: r) ++ X) = c :: (r ++ X) := by
    rw [List.append_assoc]; exact afterBlanks_layout_nb l _ hl.1 (NBHead_cons c _ h1)
  refine ⟨?_, ?_, ?_⟩
  · cases l with
    | nil => exact absurd rfl hne
    | cons b bs => exact .inr ⟨b, bs ++ (c :: r) ++ X, by simp, blank_stop hl.head⟩
  · intro r' e; rw [hab] at e; cases e; exact h2 rfl
  · unfold WD; rw [hab]; exact hd

/-- what reading a printed tree back needs to know of its text, whatever the layout: it begins with the
character the plain text begins with (`hd`), and no `...` is read across its end — after a literal without
description as long as no dot follows (`nd`), and in context 4, where a literal that ends with a dot is
parenthesised, whatever follows (`nd4`) -/
structure Heads (lay : Layout') (e : Expr) : Prop where
  hd : ∀ k, SameHead (ppL' lay k e) (pp' k e)
  nd : ∀ k X, (bare e = true → NotDotHead X) → dots3 (ppL' lay k e ++ X) = false
  nd4 : ∀ X, dots3 (ppL' lay 4 e ++ X) = false

def HeadsL : ExprL → Prop
  | .nil => True
  | .cons e es => (∀ lay : Layout', lay.Adm → Heads lay e) ∧ HeadsL es

theorem Heads.ofParenIf {lay : Layout'} {e : Expr} (b : Nat → Bool) {T T' : List Char}
    (hpp : ∀ k, ppL' lay k e = parenIfL' lay (b k) T) (hpp' : ∀ k, pp' k e = parenIf (b k) T')
    (hT : SameHead T T') (hnd : ∀ X, dots3 (T ++ X) = false) : Heads lay e :=
  ⟨fun k => by rw [hpp, hpp']; exact hT.parenIf lay _,
   fun k X _ => by rw [hpp]; exact dots3_parenIfL' _ _ _ _ (hnd X),
   fun X => by rw [hpp]; exact dots3_parenIfL' _ _ _ _ (hnd X)⟩

theorem Heads.ofBracket {lay : Layout'} {e : Expr} (c : Char) (hc : notBlank c = true ∧ c ≠ '"' ∧ c ≠ '.')
    {r r' : List Char} (hpp : ∀ k, ppL' lay k e = c :: r) (hpp' : ∀ k, pp' k e = c :: r') : Heads lay e :=
  ⟨fun k => ⟨c, r, r', hpp k, hpp' k, hc.1, hc.2.1⟩,
   fun k X _ => by rw [hpp]; exact dots3_cons_ne _ _ hc.2.2,
   fun X => by rw [hpp]; exact dots3_cons_ne _ _ hc.2.2⟩

theorem Heads.list {lay : Layout'} (adm : lay.Adm) {e : Expr} {k : Nat} (hk : k = 1 ∨ k = 2 ∨ k = 3)
    (sep : List Char) {cs : ExprL} (hlen : 2 ≤ cs.length) (hL : HeadsL cs)
    (hpp : ∀ c, ppL' lay c e = parenIfL' lay (decide (k ≤ c)) (ppListL' (lay.sub 0) k cs))
    (hpp' : ∀ c, pp' c e = parenIf (decide (k ≤ c)) (ppList' k sep cs)) : Heads lay e := by
  obtain ⟨e1, e2, es, rfl⟩ := two_le_length hlen
  have h1 := hL.1 _ ((adm.sub 0).sub 0)
  refine Heads.ofParenIf _ hpp hpp' ?_ (fun X => ?_)
  · rw [ppListL', ppList']; exact (h1.hd k).append _ _
  · rw [ppListL', List.append_assoc]
    exact h1.nd k _ (fun _ => tail_notDotL _ ((adm.sub 0).sub 1) k hk e2 es X)

theorem bracketHead_transfer (fs : ExprL) (hall : HeadsL fs) (lay : Layout') (adm : lay.Adm)
    (h : BracketHead (ppTail' 6 [] fs)) : BracketHead (ppTailL' lay 6 fs) := by
  cases fs with
  | nil =>
    obtain ⟨c, r, e, _⟩ := h
    simp [ppTail'] at e
  | cons g fs' =>
    obtain ⟨c, r, r', e1, e2, _, _⟩ := (hall.1 (lay.sub 0) (adm.sub 0)).hd 6
    obtain ⟨c', r'', e, hc⟩ := h
    simp only [ppTail', List.nil_append, e2, List.cons_append, List.cons.injEq] at e
    obtain ⟨rfl, _⟩ := e
    exact ⟨c, r ++ ppTailL' (lay.sub 1) 6 fs', by simp [ppTailL', sepL', e1], hc⟩

mutual
theorem heads : ∀ e : Expr, NF' e → ∀ lay : Layout', lay.Adm → Heads lay e
  | .term t d l sp => by
    intro h lay adm
    cases d with
    | none =>
      simp only [NF'] at h
      have hS := litStarts t.toList h.2.1 h.2.2.2
      refine ⟨fun k => ?_, fun k X hX => ?_, fun X => ?_⟩
      · rw [ppL'_bare, pp'_bare]; exact (SameHead.of_starts hS).parenIf lay _
      · rw [ppL'_bare]; exact dots3_parenIfL' _ _ _ _ (escT_dots3 _ X (hX rfl))
      · rw [ppL'_bare]
        cases hd : endsDot t.toList
        · exact escT_dots3' _ X h.2.1 hd
        · exact dots3_cons_ne _ _ (by decide)
    | some d =>
      simp only [NF'] at h
      have hS := litStarts t.toList h.2.1 h.2.2.2
      have hnd : ∀ X, dots3 (ppL' lay 4 (.term t (some d) l sp) ++ X) = false := by
        intro X
        rw [ppL'_descr, List.append_assoc]
        exact escT_dots3 _ _ (notDot_descr _ _ X (adm.descr []))
      refine ⟨fun k => ?_, fun k X _ => hnd X, hnd⟩
      rw [ppL'_descr, pp'_descr]; exact (SameHead.of_starts hS).append _ _
  | .nonterm n l sp => fun _ lay _ =>
    Heads.ofBracket '<' (by decide) (fun k => by rw [ppL']; rfl) (fun k => by rw [pp']; rfl)
  | .cmd c a l sp => fun _ lay _ =>
    Heads.ofBracket '{' (by decide) (fun k => by rw [ppL']; rfl) (fun k => by rw [pp']; rfl)
  | .opt c sp => fun _ lay _ =>
    Heads.ofBracket '[' (by decide) (r := lay.opn [] ++ ppL' (lay.sub 0) 0 c ++ lay.cls [] ++ [']'])
      (fun k => by rw [ppL']; simp only [List.cons_append]) (fun k => by rw [pp']; rfl)
  | .many1 c sp => by
    intro h lay adm
    simp only [NF'] at h
    have hc := heads c h (lay.sub 0) (adm.sub 0)
    refine Heads.ofParenIf (fun k => k == 4) (fun k => by rw [ppL']) (fun k => by rw [pp'])
      (T' := pp' 4 c ++ ['.', '.', '.']) ?_ (fun X => ?_)
    · rw [List.append_assoc]; exact (hc.hd 4).append _ _
    · simp only [List.append_assoc]; exact hc.nd4 _
  | .dd c d sp => by
    intro h lay adm
    simp only [NF'] at h
    have hc := heads c h (lay.sub 0) (adm.sub 0)
    refine Heads.ofParenIf (fun k => decide (4 ≤ k)) (fun k => by rw [ppL']) (fun k => by rw [pp'])
      ((hc.hd 5).append _ _) (fun X => ?_)
    rw [List.append_assoc]
    exact hc.nd 5 _ (fun _ => notDot_descr _ _ X (adm.descr []))
  | .seq cs sp => by
    intro h lay adm
    simp only [NF'] at h
    exact Heads.list adm (k := 3) (by omega) sepS h.1 (headsL cs h.2) (fun c => by rw [ppL']) (fun c => by rw [pp'])
  | .alt cs sp => by
    intro h lay adm
    simp only [NF'] at h
    exact Heads.list adm (k := 2) (by omega) sepA h.1 (headsL cs h.2) (fun c => by rw [ppL']) (fun c => by rw [pp'])
  | .fb cs sp => by
    intro h lay adm
    simp only [NF'] at h
    exact Heads.list adm (k := 1) (by omega) sepF h.1 (headsL cs h.2) (fun c => by rw [ppL']) (fun c => by rw [pp'])
  | .sub c l sp => by
    intro h lay adm
    cases c with
    | seq fs sp1 =>
      simp only [NF'] at h
      have hL := headsW fs h.2.2
      obtain ⟨f1, f2, fs', rfl⟩ := two_le_length h.2.1
      have hN := h.2.2
      simp only [NFW] at hN
      have h1 := hL.1 _ ((adm.sub 0).sub 0)
      refine Heads.ofParenIf
        (fun k => k == 4 || k == 6 || (k == 5 && lastBare false (.cons f1 (.cons f2 fs'))))
        (fun k => by rw [ppL'_sub, ppListL']) (fun k => by rw [pp', ppList']) ((h1.hd 6).append _ _)
        (fun X => ?_)
      rw [List.append_assoc]
      refine h1.nd 6 _ (fun hb => ?_)
      rcases hN.2.2.1 hb with e | hbr
      · cases e
      · exact (bracketHead_transfer _ hL.2 _ ((adm.sub 0).sub 1) hbr).notDot X
    | _ => simp [NF'] at h
theorem headsL : ∀ es : ExprL, NFL' es → HeadsL es
  | .nil => fun _ => trivial
  | .cons e es => by
    intro h
    simp only [NFL'] at h
    exact ⟨heads e h.1, headsL es h.2⟩
theorem headsW : ∀ fs : ExprL, NFW fs → HeadsL fs
  | .nil => fun _ => trivial
  | .cons f fs => by
    intro h
    simp only [NFW] at h
    exact ⟨heads f h.1, headsW fs h.2.2.2⟩
end

theorem tailS_contL (es : ExprL) (h : HeadsL es) (lay : Layout') (adm : lay.Adm) :
    ∀ rest, SCont rest → UC (ppTailL' lay 3 es ++ rest) := by
  intro rest hrest
  cases es with
  | nil => simpa [ppTailL'] using hrest.uc
  | cons e es' =>
    have he := h.1 (lay.sub 0) (adm.sub 0)
    have := UC_layout (lay.sep []) (ppL' (lay.sub 0) 3 e) (ppTailL' (lay.sub 1) 3 es' ++ rest)
      (adm.sep []).1 (adm.sep []).2 (he.hd 3).starts
      (he.nd 3 _ (fun _ => tailS_notDotL es' _ (adm.sub 1) rest hrest))
    simpa [ppTailL', sepL'] using this

theorem tailA_contL (es : ExprL) (lay : Layout') (adm : lay.Adm) :
    ∀ rest, ACont rest → SCont (ppTailL' lay 2 es ++ rest) := by
  intro rest hrest
  cases es with
  | nil => simpa [ppTailL'] using hrest.s
  | cons e es' =>
    have := SCont_layout_bar (lay.barL [])
      (lay.barR [] ++ ppL' (lay.sub 0) 2 e ++ (ppTailL' (lay.sub 1) 2 es' ++ rest)) (adm.barL [])
    simpa [ppTailL', sepL'] using this

theorem tailF_contL (es : ExprL) (lay : Layout') (adm : lay.Adm) :
    ∀ rest, FCont rest → ACont (ppTailL' lay 1 es ++ rest) := by
  intro rest hrest
  cases es with
  | nil => simpa [ppTailL'] using hrest.a
  | cons e es' =>
    have := ACont_layout_barbar (lay.barL [])
      (lay.barR [] ++ ppL' (lay.sub 0) 1 e ++ (ppTailL' (lay.sub 1) 1 es' ++ rest)) (adm.barL [])
    simpa [ppTailL', sepL'] using this

theorem tailW_notDotL (g : Expr) (fs : ExprL) (hN : NFW (.cons g fs)) (hg : bare g = true) (hall : HeadsL fs)
    (lay : Layout') (adm : lay.Adm) (rest : List Char) (hrest : AfterWord (lastBare true fs) rest) :
    NotDotHead (ppTailL' lay 6 fs ++ rest) := by
  simp only [NFW] at hN
  rcases hN.2.2.1 hg with rfl | hb
  · simp only [ppTailL', List.nil_append]
    exact hrest.d.1.notDot
  · exact (bracketHead_transfer fs hall lay adm hb).notDot rest

theorem tailW_contL (f : Expr) (fs : ExprL) (hN : NFW (.cons f fs)) (hall : HeadsL fs) (lay : Layout')
    (adm : lay.Adm) : ∀ rest, AfterWord (lastBare (bare f) fs) rest → WOf f (ppTailL' lay 6 fs ++ rest) := by
  intro rest hrest
  have hN' := hN
  simp only [NFW] at hN'
  cases hb : bare f
  · have hW : WOf f = WD := by
      cases f with
      | term t d l sp =>
        cases d with
        | none => simp [bare] at hb
        | some d => rfl
      | _ => rfl
    rw [hW]
    cases fs with
    | nil =>
      simp only [ppTailL', List.nil_append]
      exact hrest.d.2
    | cons g fs' =>
      obtain ⟨hg, hall'⟩ := hall
      have hg0 := hg (lay.sub 0) (adm.sub 0)
      obtain ⟨c, r, hcr, hnb, _⟩ := (hg0.hd 6).starts
      have hnd := hg0.nd 6 (ppTailL' (lay.sub 1) 6 fs' ++ rest) (fun hbg => by
        have hr' : AfterWord (lastBare true fs') rest := by
          have : lastBare (bare f) (.cons g fs') = lastBare true fs' := by
            simp only [lastBare, hbg]
          rw [this] at hrest; exact hrest
        exact tailW_notDotL g fs' hN'.2.2.2 hbg hall' _ (adm.sub 1) rest hr')
      unfold WD
      simp only [ppTailL', sepL', List.nil_append, List.append_assoc]
      rw [hcr, List.cons_append, afterBlanks_notBlank c _ hnb, ← List.cons_append, ← hcr]
      exact hnd
  · obtain ⟨t, l, sp, rfl⟩ : ∃ t l sp, f = .term t none l sp := by
      cases f with
      | term t d l sp =>
        cases d with
        | none => exact ⟨t, l, sp, rfl⟩
        | some d => simp [bare] at hb
      | _ => simp [bare] at hb
    show WL t.toList _
    rcases hN'.2.2.1 hb with rfl | hbr
    · simp only [ppTailL', List.nil_append]
      have : AfterWord true rest := by simpa [lastBare, bare] using hrest
      exact UC.wl this _
    · exact (bracketHead_transfer fs hall lay adm hbr).wl rest _

def plainLayout' : Layout' :=
  ⟨fun _ => [' '], fun _ => [' '], fun _ => [' '], fun _ => [], fun _ => [], fun _ => [], fun _ => [' ']⟩

theorem plainLayout'_sub (i : Nat) : plainLayout'.sub i = plainLayout' := rfl

theorem plainLayout'_adm : plainLayout'.Adm :=
  have hb : IsLayoutW [' '] := ⟨show IsLayout [' '] by decide, fun r e => by cases e⟩
  ⟨fun _ => ⟨hb, by simp [plainLayout']⟩, fun _ => hb, fun _ => hb.1, fun _ => rfl,
   fun _ => IsLayoutW.nil, fun _ => IsLayoutW.nil, fun _ => hb⟩

theorem parenIfL'_plain (b : Bool) (T : List Char) : parenIfL' plainLayout' b T = parenIf b T := by
  cases b <;> simp [parenIfL', parenIf, parenL, plainLayout']

theorem descrTextL_plain (d : List Char) : descrTextL (plainLayout'.descr []) d = descrText d := by
  simp [descrTextL, descrText, plainLayout']

def sepOf : Nat → List Char
  | 3 => sepS
  | 2 => sepA
  | 1 => sepF
  | _ => []

theorem sepL'_plain (ctx : Nat) : sepL' plainLayout' ctx = sepOf ctx := by
  unfold sepL' sepOf
  split <;> simp [plainLayout', sepS, sepA, sepF]

theorem ppL'_plain_aux (e : Expr) : (∀ ctx, ppL' plainLayout' ctx e = pp' ctx e) ∧
    ∀ fs sp, e = .seq fs sp → ppListL' plainLayout' 6 fs = ppList' 6 [] fs := by
  refine Expr.rec
    (motive_1 := fun e => (∀ ctx, ppL' plainLayout' ctx e = pp' ctx e) ∧
      ∀ fs sp, e = .seq fs sp → ppListL' plainLayout' 6 fs = ppList' 6 [] fs)
    (motive_2 := fun es => ∀ ctx, ppListL' plainLayout' ctx es = ppList' ctx (sepOf ctx) es ∧
      ppTailL' plainLayout' ctx es = ppTail' ctx (sepOf ctx) es)
    ?_ ?_ ?_ ?_ ?_ ?_ ?_ ?_ ?_ ?_ ?_ ?_ e
  · intro t d l sp
    refine ⟨fun ctx => ?_, fun _ _ e => by cases e⟩
    cases d with
    | none => rw [ppL'_bare, pp'_bare, parenIfL'_plain]
    | some d => rw [ppL'_descr, pp'_descr, descrTextL_plain]
  · intro n l sp; exact ⟨fun ctx => by simp only [ppL', pp'], fun _ _ e => by cases e⟩
  · intro c a l sp; exact ⟨fun ctx => by simp only [ppL', pp'], fun _ _ e => by cases e⟩
  · intro cs sp ih
    refine ⟨fun ctx => ?_, fun fs sp' e => by cases e; exact (ih 6).1⟩
    simp only [ppL', pp', plainLayout'_sub, parenIfL'_plain, (ih 3).1, sepOf]
  · intro cs sp ih
    refine ⟨fun ctx => ?_, fun _ _ e => by cases e⟩
    simp only [ppL', pp', plainLayout'_sub, parenIfL'_plain, (ih 2).1, sepOf]
  · intro cs sp ih
    refine ⟨fun ctx => ?_, fun _ _ e => by cases e⟩
    simp only [ppL', pp', plainLayout'_sub, parenIfL'_plain, (ih 1).1, sepOf]
  · intro c sp ih
    refine ⟨fun ctx => ?_, fun _ _ e => by cases e⟩
    simp only [ppL', pp', plainLayout'_sub, ih.1 0]
    simp [plainLayout']
  · intro c sp ih
    refine ⟨fun ctx => ?_, fun _ _ e => by cases e⟩
    simp only [ppL', pp', plainLayout'_sub, parenIfL'_plain, ih.1 4]
    simp [plainLayout']
  · intro c d sp ih
    refine ⟨fun ctx => ?_, fun _ _ e => by cases e⟩
    simp only [ppL', pp', plainLayout'_sub, parenIfL'_plain, ih.1 5, descrTextL_plain]
  · intro c l sp ih
    refine ⟨fun ctx => ?_, fun _ _ e => by cases e⟩
    cases c with
    | seq fs sp1 =>
      rw [ppL'_sub, plainLayout'_sub, parenIfL'_plain, ih.2 fs sp1 rfl]
      rw [pp']
    | _ => simp only [ppL', pp']
  · intro ctx; simp only [ppListL', ppList', ppTailL', ppTail', and_self]
  · intro e es ihe ihes ctx
    simp only [ppListL', ppList', ppTailL', ppTail', plainLayout'_sub, ihe.1 ctx, (ihes ctx).2,
      sepL'_plain, and_self]

theorem ppL'_plain (ctx : Nat) (e : Expr) : ppL' plainLayout' ctx e = pp' ctx e := (ppL'_plain_aux e).1 ctx

theorem ofLayout_sub (lay : Layout) (d : List Nat → List Char) (i : Nat) :
    (Layout'.ofLayout lay d).sub i = Layout'.ofLayout (lay.sub i) (fun p => d (i :: p)) := rfl

theorem parenIfL'_ofLayout (lay : Layout) (d : List Nat → List Char) (b : Bool) (T : List Char) :
    parenIfL' (Layout'.ofLayout lay d) b T = parenIfL lay b T := rfl

theorem ppL'_ofLayout (e : Expr) : NF e → ∀ (lay : Layout) (d : List Nat → List Char) ctx, ctx ≤ 4 →
    ppL' (Layout'.ofLayout lay d) ctx e = ppL lay ctx e := by
  refine Expr.rec
    (motive_1 := fun e => NF e → ∀ (lay : Layout) (d : List Nat → List Char) ctx, ctx ≤ 4 →
      ppL' (Layout'.ofLayout lay d) ctx e = ppL lay ctx e)
    (motive_2 := fun es => NFL es → ∀ (lay : Layout) (d : List Nat → List Char) ctx, 1 ≤ ctx → ctx ≤ 3 →
      ppListL' (Layout'.ofLayout lay d) ctx es = ppListL lay ctx es ∧
      ppTailL' (Layout'.ofLayout lay d) ctx es = ppTailL lay ctx es)
    ?_ ?_ ?_ ?_ ?_ ?_ ?_ ?_ ?_ ?_ ?_ ?_ e
  · intro t dd l sp h lay d ctx hctx
    simp only [NF] at h
    obtain ⟨rfl, _, _, h4, _⟩ := h
    have h5 : (ctx == 5) = false := by simp; omega
    rw [ppL'_bare, escT_regular 0 _ h4, endsDot_regular _ h4, h5]
    simp [parenIfL', ppL]
  · intro n l sp _ lay d ctx _; simp only [ppL', ppL]
  · intro c a l sp _ lay d ctx _; simp only [ppL', ppL]
  · intro cs sp ih h lay d ctx _
    simp only [NF] at h
    simp only [ppL', ppL, ofLayout_sub, parenIfL'_ofLayout, (ih h.2 _ _ 3 (by omega) (by omega)).1]
  · intro cs sp ih h lay d ctx _
    simp only [NF] at h
    simp only [ppL', ppL, ofLayout_sub, parenIfL'_ofLayout, (ih h.2 _ _ 2 (by omega) (by omega)).1]
  · intro cs sp ih h lay d ctx _
    simp only [NF] at h
    simp only [ppL', ppL, ofLayout_sub, parenIfL'_ofLayout, (ih h.2 _ _ 1 (by omega) (by omega)).1]
  · intro c sp ih h lay d ctx _
    simp only [NF] at h
    simp only [ppL', ppL, ofLayout_sub, ih h _ _ 0 (by omega)]
    rfl
  · intro c sp ih h lay d ctx hctx
    simp only [NF] at h
    have : (ctx == 4) = decide (4 ≤ ctx) := by rw [Bool.eq_iff_iff]; simp; omega
    simp only [ppL', ppL, ofLayout_sub, parenIfL'_ofLayout, ih h _ _ 4 (by omega), this]
    rfl
  · intro c dd sp _ h; simp [NF] at h
  · intro c l sp _ h; simp [NF] at h
  · intro _ lay d ctx _ _; simp only [ppListL', ppListL, ppTailL', ppTailL, and_self]
  · intro e es ihe ihes h lay d ctx h1 h3
    simp only [NFL] at h
    have hsep : sepL' (Layout'.ofLayout lay d) ctx = sepL lay ctx := by
      have : ctx = 1 ∨ ctx = 2 ∨ ctx = 3 := by omega
      rcases this with rfl | rfl | rfl <;> rfl
    simp only [ppListL', ppListL, ppTailL', ppTailL, ofLayout_sub, ihe h.1 _ _ ctx (by omega),
      (ihes h.2 _ _ ctx h1 h3).2, hsep, and_self]

/-! ### examples: the restrictions of `Layout'.Adm` are needed -/

private def sp0 : Span := ⟨0, 0, 0⟩

private def lit (t : String) : Expr := .term t none 0 sp0

private def word (fs : List Expr) : Expr := .sub (.seq (ExprL.ofList fs) sp0) 0 sp0

def constLayout (sep barL barR opn cls dots descr : String) : Layout' :=
  ⟨fun _ => sep.toList, fun _ => barL.toList, fun _ => barR.toList, fun _ => opn.toList, fun _ => cls.toList,
   fun _ => dots.toList, fun _ => descr.toList⟩

/-- `a "d" (b | c.) "x" [--o=<V>]...`: a literal with its description, a description distributed over a
group, a word built by juxtaposition inside brackets under a postfix `...` -/
def exE : Expr :=
  .seq (ExprL.ofList [.term "a" (some "d") 0 sp0,
    .dd (.alt (ExprL.ofList [lit "b", lit "c."]) sp0) "x" sp0,
    .many1 (.opt (word [lit "--o=", .nonterm "V" 0 sp0]) sp0) sp0]) sp0

theorem exE_nf : NF' exE := by
  have e1 : "a".toList = ['a'] := by rfl
  have e2 : "b".toList = ['b'] := by rfl
  have e3 : "c.".toList = ['c', '.'] := by rfl
  have e4 : "--o=".toList = ['-', '-', 'o', '='] := by rfl
  have e5 : "V".toList = ['V'] := by rfl
  have hb : BracketHead (ppTail' 6 [] (.cons (.nonterm "V" 0 sp0) .nil)) :=
    ⟨'<', "V".toList ++ ['>'], by simp [ppTail', pp'], .inl rfl⟩
  simp only [exE, lit, word, ExprL.ofList, NF', NFL', NFW, NoSub, bare, ExprL.length, e1, e2, e3, e4, e5]
  exact ⟨by decide, by decide, ⟨by decide, by decide, by decide, trivial⟩,
    ⟨trivial, by decide, by decide, trivial, fun _ => .inr hb, by decide, trivial, fun h => (by cases h), trivial⟩,
    trivial⟩

/-- comments and line feeds at every position -/
def exLay : Layout' := constLayout " # two\n" " " " " "# in\n" "\n" " " "\n# note\n  "

theorem exLay_adm : exLay.Adm := by
  have h1 : IsLayoutW " # two\n".toList := ⟨by decide, fun r e => by cases e⟩
  have h2 : IsLayoutW " ".toList := ⟨by decide, fun r e => by cases e⟩
  have h3 : IsLayoutW "\n".toList := ⟨by decide, fun r e => by cases e⟩
  have h4 : IsLayoutW "\n# note\n  ".toList := ⟨by decide, fun r e => by cases e⟩
  exact ⟨fun _ => ⟨h1, by simp [exLay, constLayout]⟩, fun _ => h2, fun _ => h2.1,
    fun _ => by show IsLayout "# in\n".toList; decide, fun _ => h3, fun _ => h2, fun _ => h4⟩

set_option maxRecDepth 100000 in
example : pp' 0 exE = "a \"d\" (b | c.) \"x\" [--o=<V>]...".toList := eq_toList_of_ofList_eq rfl

theorem ppL'_exLay_exE : ppL' exLay 0 exE =
    "a\n# note\n  \"d\" # two\n(# in\nb | c.\n)\n# note\n  \"x\" # two\n[# in\n--o=<V>\n] ...".toList := eq_toList_of_ofList_eq rfl

set_option maxRecDepth 100000 in
example : ppL' exLay 0 exE =
    "a\n# note\n  \"d\" # two\n(# in\nb | c.\n)\n# note\n  \"x\" # two\n[# in\n--o=<V>\n] ...".toList := ppL'_exLay_exE

/-- a layout that differs from the plain one in the string before a description only -/
def descrLayout (d : String) : Layout' := constLayout " " " " " " "" "" "" d

set_option maxRecDepth 100000 in
/-- nothing need stand between a literal and its description … -/
theorem descr_empty_literal : ppL' (descrLayout "") 0 (.term "a" (some "d") 0 sp0) = "a\"d\"".toList ∧
    readsAs "a\"d\"".toList (.term "a" (some "d") 0 sp0) = true := by decide +kernel

set_option maxRecDepth 100000 in
/-- … nor between a group and the description distributed over it -/
theorem descr_empty_group : ppL' (descrLayout "") 0 (.dd (.nonterm "X" 0 sp0) "d" sp0) = "<X>\"d\"".toList ∧
    readsAs "<X>\"d\"".toList (.dd (.nonterm "X" 0 sp0) "d" sp0) = true := by decide +kernel

set_option maxRecDepth 100000 in
/-- a comment may stand before a description when it does not follow the word directly -/
theorem descr_comment_literal :
    ppL' (descrLayout "\n# c\n ") 0 (.term "a" (some "d") 0 sp0) = "a\n# c\n \"d\"".toList ∧
    readsAs "a\n# c\n \"d\"".toList (.term "a" (some "d") 0 sp0) = true := by decide +kernel

set_option maxRecDepth 100000 in
/-- `Layout'.Adm.descr` asks for `IsLayoutW`, not only `IsLayout`: a comment directly after a literal is
part of the literal (`#` is a regular character) -/
theorem descr_hash_literal : IsLayout "#c\n".toList ∧
    ppL' (descrLayout "#c\n") 0 (.term "a" (some "d") 0 sp0) = "a#c\n\"d\"".toList ∧
    readsAs "a#c\n\"d\"".toList (.term "a" (some "d") 0 sp0) = false ∧
    readsAs "a#c\n\"d\"".toList (.term "a#c" (some "d") 0 sp0) = true := by decide +kernel

set_option maxRecDepth 100000 in
/-- the same after a group: `#c` is a literal juxtaposed to the group, and the description is its own -/
theorem descr_hash_group :
    ppL' (descrLayout "#c\n") 0 (.dd (.nonterm "X" 0 sp0) "d" sp0) = "<X>#c\n\"d\"".toList ∧
    readsAs "<X>#c\n\"d\"".toList (.dd (.nonterm "X" 0 sp0) "d" sp0) = false ∧
    readsAs "<X>#c\n\"d\"".toList (word [.nonterm "X" 0 sp0, .term "#c" (some "d") 0 sp0]) = true := by decide +kernel

set_option maxRecDepth 100000 in
/-- no layout may stand inside a word: a blank between two factors makes them two items of a sequence
(`Layout'` has no position there, `sepL' lay 6 = []`) -/
theorem blank_in_word : readsAs "--o=<V>".toList (word [lit "--o=", .nonterm "V" 0 sp0]) = true ∧
    readsAs "--o= <V>".toList (word [lit "--o=", .nonterm "V" 0 sp0]) = false ∧
    readsAs "--o= <V>".toList (.seq (ExprL.ofList [lit "--o=", .nonterm "V" 0 sp0]) sp0) = true := by decide +kernel

end Full

end Complgen.Parse
