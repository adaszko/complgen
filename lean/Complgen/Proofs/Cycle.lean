/-
C08: a grammar whose definitions refer to each other in a circle is rejected — the depth-first
traversal cannot succeed on a graph with a cycle (`Proofs/Topo.lean`: a successful traversal orders
every vertex after its children).  Conversely the traversal fails only on a path that closes a cycle.
-/
import Complgen.Proofs.Meaning
namespace Complgen.Check

inductive Reach (G : Graph) : String → String → Prop
  | step {a b : String} : b ∈ kids G a → Reach G a b
  | trans {a b c : String} : Reach G a b → Reach G b c → Reach G a c

def Before (R : List String) (c n : String) : Prop := ∃ pre post, R = pre ++ n :: post ∧ c ∈ pre

theorem split_unique {n : String} : ∀ (a a' b b' : List String), (a ++ n :: b).Nodup →
    a ++ n :: b = a' ++ n :: b' → a = a'
  | [], [], _, _, _, _ => rfl
  | [], x :: a', b, b', hnd, h => by
    simp only [List.nil_append, List.cons_append, List.cons.injEq] at h
    obtain ⟨rfl, h2⟩ := h
    rw [h2] at hnd
    have := (List.nodup_cons.mp hnd).1
    exact absurd (by simp) this
  | x :: a, [], b, b', hnd, h => by
    simp only [List.nil_append, List.cons_append, List.cons.injEq] at h
    obtain ⟨rfl, _⟩ := h
    have := (List.nodup_cons.mp hnd).1
    exact absurd (by simp) this
  | x :: a, y :: a', b, b', hnd, h => by
    simp only [List.cons_append, List.cons.injEq] at h
    obtain ⟨rfl, h2⟩ := h
    rw [split_unique a a' b b' (List.nodup_cons.mp hnd).2 h2]

theorem before_trans (R : List String) (hnd : R.Nodup) (c n m : String) (h1 : Before R c n) (h2 : Before R n m) :
    Before R c m := by
  obtain ⟨pre1, post1, e1, hc⟩ := h1
  obtain ⟨pre2, post2, e2, hn⟩ := h2
  obtain ⟨p, q, hpq⟩ := List.append_of_mem hn
  refine ⟨pre2, post2, e2, ?_⟩
  have e3 : R = p ++ n :: (q ++ m :: post2) := by rw [e2, hpq]; simp
  have : pre1 = p := split_unique pre1 p post1 _ (by rw [← e1]; exact hnd) (by rw [← e1, ← e3])
  rw [hpq, ← this]
  exact List.mem_append_left _ hc

theorem before_irrefl (R : List String) (hnd : R.Nodup) (n : String) : ¬ Before R n n := by
  rintro ⟨pre, post, e, hn⟩
  rw [e] at hnd
  have := (List.nodup_append.mp hnd).2.2 n hn n (by simp)
  exact this rfl

theorem mem_of_before_right (R : List String) (c n : String) (h : Before R c n) : n ∈ R := by
  obtain ⟨pre, post, e, _⟩ := h
  rw [e]; simp

theorem reach_before (G : Graph) (R : List String) (hnd : R.Nodup) (hcl : Closed G R) :
    ∀ a b, Reach G a b → a ∈ R → Before R b a := by
  intro a b h
  induction h with
  | step hkid =>
    intro ha
    obtain ⟨pre, post, e⟩ := List.append_of_mem ha
    exact ⟨pre, post, e, hcl pre _ post e _ hkid⟩
  | @trans x y z h1 h2 ih1 ih2 =>
    intro ha
    have hb := ih1 ha
    have hbR : y ∈ R := by
      obtain ⟨pre, post, e, hm⟩ := hb
      rw [e]; exact List.mem_append_left _ hm
    exact before_trans R hnd z y x (ih2 hbR) hb

theorem reach_source_vertex (G : Graph) (a b : String) (h : Reach G a b) : a ∈ verts G := by
  induction h with
  | @step a b hkid =>
    apply Classical.byContradiction
    intro hn
    rw [kids, (get?_none_iff G a).mpr hn] at hkid
    cases hkid
  | trans _ _ ih1 _ => exact ih1

theorem cycle_no_order (D : AList (Span × Expr)) (v : String) (hcyc : Reach (depGraph D) v v) :
    ∀ order, resolutionOrder D ≠ .ok order := by
  intro order h
  obtain ⟨R, _, hnd, hcl, hall⟩ := resolutionOrder_ok D order h
  have hv : v ∈ R := hall v (reach_source_vertex _ v v hcyc)
  exact before_irrefl R hnd v (reach_before _ R hnd hcl v v hcyc hv)

/-- **Definitions that refer to each other in a circle are rejected as such**, whenever none of the
mistakes checked earlier is present. -/
theorem validate_cycle (g : Grammar) (sh : Shell) (n : String) (h : commandOf g = .ok n)
    (hd : ((plainDefs g).map (·.1)).Nodup) (specs : AList UserSpec) (fbs : AList String)
    (hgs : getSpecializations g sh = .ok (specs, fbs))
    (v : String) (hcyc : Reach (depGraph (tableOf sh g)) v v) :
    ∃ spans, validate g sh = .err .nonterminalDefinitionsCycle spans := by
  obtain ⟨U, US, he⟩ := finishValidate_eq g sh n specs fbs hgs
  rw [validate_after_plain g sh n h hd, hgs]
  simp only [he]
  cases hro : resolutionOrder (tableOf sh g) with
  | error spans => exact ⟨spans, rfl⟩
  | ok order => exact absurd hro (cycle_no_order _ v hcyc order)

def IsPath (G : Graph) : List String → Prop
  | [] => True
  | [_] => True
  | a :: b :: rest => b ∈ kids G a ∧ IsPath G (b :: rest)

theorem isPath_snoc (G : Graph) : ∀ (l : List String) (v c : String), IsPath G l → l.getLast? = some v →
    c ∈ kids G v → IsPath G (l ++ [c])
  | [], v, c, _, h, _ => by simp at h
  | [a], v, c, _, h, hk => by
    simp at h; subst h
    exact ⟨hk, trivial⟩
  | a :: b :: rest, v, c, hp, h, hk => by
    have h' : (b :: rest).getLast? = some v := by simpa [List.getLast?_cons_cons] using h
    exact ⟨hp.1, isPath_snoc G (b :: rest) v c hp.2 h' hk⟩

theorem reach_along (G : Graph) : ∀ (l : List String) (a v : String), IsPath G (a :: l) → l ≠ [] →
    (a :: l).getLast? = some v → Reach G a v
  | [], a, v, _, h, _ => absurd rfl h
  | [b], a, v, hp, _, hl => by
    simp at hl; subst hl
    exact .step hp.1
  | b :: c :: rest, a, v, hp, _, hl => by
    have h' : (b :: c :: rest).getLast? = some v := by simpa [List.getLast?_cons_cons] using hl
    exact .trans (.step hp.1) (reach_along G (c :: rest) b v hp.2 (by simp) h')

theorem isPath_suffix (G : Graph) : ∀ (pre l : List String), IsPath G (pre ++ l) → IsPath G l
  | [], _, h => h
  | [_], [], _ => trivial
  | [_], _ :: _, h => h.2
  | _ :: b :: pre, l, h => isPath_suffix G (b :: pre) l h.2

theorem cycle_of_back_edge (G : Graph) (pn : List String) (v c : String) (hp : IsPath G pn)
    (hl : pn.getLast? = some v) (hk : c ∈ kids G v) (hc : c ∈ pn) : Reach G c c := by
  obtain ⟨pre, post, e⟩ := List.append_of_mem hc
  have hsuf : IsPath G (c :: post) := isPath_suffix G pre (c :: post) (by rw [← e]; exact hp)
  have hlast : (c :: post).getLast? = some v := by
    rw [e] at hl
    simpa [List.getLast?_append] using hl
  by_cases hpost : post = []
  · subst hpost
    simp at hlast; subst hlast
    exact .step hk
  · exact .trans (reach_along G post c v hsuf hpost hlast) (.step hk)

def DfsErrSpec (G : Graph) (fuel : Nat) : Prop :=
  ∀ (v : String) (path : List (String × Span)) (st : DfsState) (e : List Span),
    IsPath G (path.map (·.1)) → (path.map (·.1)).getLast? = some v →
    dfs G fuel v path st = .error e → ∃ u, Reach G u u

theorem go_err (G : Graph) (fuel : Nat) (ih : DfsErrSpec G fuel) (v : String) (path : List (String × Span))
    (hp : IsPath G (path.map (·.1))) (hl : (path.map (·.1)).getLast? = some v) :
    ∀ (rest : List (String × Span)) (st : DfsState) (e : List Span), (∀ c ∈ rest.map (·.1), c ∈ kids G v) →
      dfs.go G fuel v path rest st = .error e → ∃ u, Reach G u u
  | [], st, e, _, h => by rw [dfs.go.eq_1] at h; cases h
  | (c, sp) :: rest, st, e, hrest, h => by
    rw [dfs.go.eq_2] at h
    have hck : c ∈ kids G v := hrest c (by simp)
    have hrest' : ∀ c' ∈ rest.map (·.1), c' ∈ kids G v := fun c' hc' => hrest c' (by simp at hc' ⊢; exact .inr hc')
    by_cases hpa : (path.any fun x => x.1 == c) = true
    · exact ⟨c, cycle_of_back_edge G _ v c hp hl hck ((contains_iff_key path c).mp hpa)⟩
    · simp only [hpa] at h
      by_cases hv : st.visited.contains c = true
      · simp only [hv, if_true] at h
        exact go_err G fuel ih v path hp hl rest st e hrest' h
      · simp only [hv] at h
        cases hd : dfs G fuel c (path ++ [(c, sp)]) st with
        | error e' =>
          have hpn : (path ++ [(c, sp)]).map (·.1) = path.map (·.1) ++ [c] := by simp
          exact ih c (path ++ [(c, sp)]) st e' (by rw [hpn]; exact isPath_snoc G _ v c hp hl hck)
            (by rw [hpn]; simp) hd
        | ok st1 =>
          rw [hd] at h
          simp only at h
          exact go_err G fuel ih v path hp hl rest _ e hrest' h

theorem dfs_err : ∀ (G : Graph) (fuel : Nat), DfsErrSpec G fuel
  | G, 0 => by
    intro v path st e _ _ h
    rw [dfs.eq_1] at h; cases h
  | G, fuel + 1 => by
    intro v path st e hp hl h
    rw [dfs.eq_2] at h
    exact go_err G fuel (dfs_err G fuel) v path hp hl ((G.get? v).getD []) _ e (fun c hc => hc) h

theorem loop_err (defs : AList (Span × Expr)) (G : Graph) (n : Nat) :
    ∀ (l : List String) (st : DfsState) (e : List Span),
      resolutionOrder.loop defs G n l st = .error e → ∃ u, Reach G u u
  | [], st, e, h => by unfold resolutionOrder.loop at h; cases h
  | v :: rest, st, e, h => by
    unfold resolutionOrder.loop at h
    by_cases hv : st.visited.contains v = true
    · simp only [hv, if_true] at h
      exact loop_err defs G n rest st e h
    · simp only [hv] at h
      generalize hsp : (((defs.get? v).map (·.1)).getD default) = sp at h
      cases hd : dfs G n v [(v, sp)] st with
      | error e' => exact dfs_err G n v [(v, sp)] st e' trivial (by simp) hd
      | ok st1 =>
        rw [hd] at h
        simp only at h
        exact loop_err defs G n rest _ e h

/-- **The traversal fails only when the definitions really refer to each other in a circle.** -/
theorem resolutionOrder_error_cycle (D : AList (Span × Expr)) (spans : List Span)
    (h : resolutionOrder D = .error spans) : ∃ u, Reach (depGraph D) u u := by
  unfold resolutionOrder at h
  by_cases he : D.isEmpty = true
  · simp only [he, if_true] at h; cases h
  · have he' : D.isEmpty = false := by simpa using he
    simp only [he', Bool.false_eq_true, if_false] at h
    generalize hl : (roots (depGraph D) ++ List.filter (fun v => !(roots (depGraph D)).contains v)
      (List.map (fun x => x.1) (depGraph D))) = l at h
    cases hloop : resolutionOrder.loop D (depGraph D) ((depGraph D).length + 1) l ⟨[], []⟩ with
    | error e => exact loop_err D (depGraph D) _ l _ e hloop
    | ok st => rw [hloop] at h; cases h

end Complgen.Check
