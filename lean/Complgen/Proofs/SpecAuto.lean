/-
C02: the automaton the run compares the implementation's automaton with — the determinised
partial-derivative automaton of `Spec.toSRx (Spec.meaning g)` — accepts exactly the key sequences of
the words (`denPos`) of the grammar's meaning: the same semantics `C02_end_to_end` is stated with.
-/
import Complgen.Proofs.Antimirov
import Complgen.Proofs.SpecKeys
import Complgen.Proofs.Meaning
namespace Complgen.Spec
open SRx

def keyAt (ks : List String) (i p : Nat) : String := ks[p - i]?.getD ""

mutual
/-- no `|`/`||` without alternatives occurs (the parser never produces one) -/
def NoEmptyAlt : Expr → Bool
  | .alt .nil _ | .fb .nil _ => false
  | .seq cs _ | .alt cs _ | .fb cs _ => NoEmptyAltL cs
  | .opt c _ | .many1 c _ | .dd c _ _ => NoEmptyAlt c
  | _ => true
def NoEmptyAltL : ExprL → Bool
  | .nil => true
  | .cons e es => NoEmptyAlt e && NoEmptyAltL es
end

theorem map_keyAt_append (wk : Expr → String) (e : Expr) (ks' : List String) (i : Nat)
    {ps1 ps2 : List Nat} (h1 : ∀ p ∈ ps1, i ≤ p ∧ p < i + e.leafCount)
    (h2 : ∀ p ∈ ps2, i + e.leafCount ≤ p) :
    (ps1 ++ ps2).map (keyAt (leafKeys wk e ++ ks') i) =
      ps1.map (keyAt (leafKeys wk e) i) ++ ps2.map (keyAt ks' (i + e.leafCount)) := by
  have hlen := leafKeys_length wk e
  rw [List.map_append]
  congr 1
  · apply List.map_congr_left
    intro p hp
    have := h1 p hp
    unfold keyAt
    rw [List.getElem?_append_left (by omega)]
  · apply List.map_congr_left
    intro p hp
    have := h2 p hp
    unfold keyAt
    rw [List.getElem?_append_right (by omega)]
    congr 2
    omega

theorem leaf_lang (k : String) (i : Nat) (w : List String) :
    Lang (.sym k) w ↔ ∃ ps : List Nat, ps = [i] ∧ ps.map (keyAt [k] i) = w := by
  rw [lang_sym]
  constructor
  · rintro rfl; exact ⟨[i], rfl, by simp [keyAt]⟩
  · rintro ⟨ps, rfl, rfl⟩; simp [keyAt]

theorem lang_plus (r : SRx) (w : List String) :
    Lang (SRx.mkCat r (.star r)) w ↔
      ∃ ws : List (List String), ws ≠ [] ∧ w = ws.flatten ∧ ∀ u ∈ ws, Lang r u := by
  rw [mkCat_lang, lang_cat]
  constructor
  · rintro ⟨u, v, rfl, hu, hv⟩
    obtain ⟨vs, rfl, hall⟩ := (lang_star_iff r v).mp hv
    exact ⟨u :: vs, by simp, by simp, fun x hx => by
      rcases List.mem_cons.mp hx with rfl | hx
      · exact hu
      · exact hall x hx⟩
  · rintro ⟨ws, hne, rfl, hall⟩
    cases ws with
    | nil => exact absurd rfl hne
    | cons u vs =>
      exact ⟨u, vs.flatten, by simp, hall u (by simp),
        (lang_star_iff r _).mpr ⟨vs, rfl, fun x hx => hall x (by simp [hx])⟩⟩

mutual
theorem toSRx_lang (wk : Expr → String) : ∀ (e : Expr), Check.NoDD e = true → NoEmptyAlt e = true →
    ∀ (i : Nat) (w : List String),
      Lang (toSRx wk e) w ↔ ∃ ps, e.denPos i ps ∧ ps.map (keyAt (leafKeys wk e) i) = w
  | .term .. | .nonterm .. | .cmd .. | .sub .. => fun _ _ i w => by
    simp only [toSRx, leafKeys, keyOf, Expr.denPos]
    exact leaf_lang _ i w
  | .dd c d s => fun hd => by cases hd
  | .seq cs s => fun hd hn i w => toSRxCat_lang wk cs hd hn i w
  | .alt cs s | .fb cs s => fun hd hn i w => by
    cases cs with
    | nil => cases hn
    | cons e es => exact toSRxAlt_lang wk (.cons e es) (fun h => by cases h) hd hn i w
  | .opt c s => fun hd hn i w => by
    have ih := toSRx_lang wk c hd hn i w
    simp only [toSRx, Expr.denPos, leafKeys, lang_alt, lang_eps, ih]
    constructor
    · rintro (⟨ps, h1, h2⟩ | rfl)
      · exact ⟨ps, .inr h1, h2⟩
      · exact ⟨[], .inl rfl, rfl⟩
    · rintro ⟨ps, (rfl | h1), h2⟩
      · right; simpa using h2.symm
      · exact .inl ⟨ps, h1, h2⟩
  | .many1 c s => fun hd hn i w => by
    have ih := toSRx_lang wk c hd hn i
    simp only [toSRx, Expr.denPos, leafKeys]
    rw [lang_plus]
    constructor
    · rintro ⟨ws, hne, rfl, hall⟩
      have hch : ∀ ws' : List (List String), (∀ u ∈ ws', Lang (toSRx wk c) u) →
          ∃ pss : List (List Nat), pss.length = ws'.length ∧ (∀ ps ∈ pss, c.denPos i ps) ∧
            pss.map (List.map (keyAt (leafKeys wk c) i)) = ws' := by
        intro ws'
        induction ws' with
        | nil => intro _; exact ⟨[], rfl, (fun _ h => by cases h), rfl⟩
        | cons u us ihl =>
          intro h
          obtain ⟨ps, hp1, hp2⟩ := (ih u).mp (h u (by simp))
          obtain ⟨pss, hl, hd', hm⟩ := ihl (fun x hx => h x (by simp [hx]))
          exact ⟨ps :: pss, by simp [hl], fun q hq => by
            rcases List.mem_cons.mp hq with rfl | hq
            · exact hp1
            · exact hd' q hq, by simp [hp2, hm]⟩
      obtain ⟨pss, hl, hd', hm⟩ := hch ws hall
      refine ⟨pss.flatten, ⟨pss, ?_, rfl, hd'⟩, ?_⟩
      · intro e; subst e; simp at hl; exact hne (List.eq_nil_of_length_eq_zero hl.symm)
      · rw [List.map_flatten, hm]
    · rintro ⟨ps, ⟨pss, hne, rfl, hall⟩, rfl⟩
      refine ⟨pss.map (List.map (keyAt (leafKeys wk c) i)), ?_, by rw [List.map_flatten], ?_⟩
      · intro e; exact hne (List.map_eq_nil_iff.mp e)
      · intro u hu
        obtain ⟨q, hq, rfl⟩ := List.mem_map.mp hu
        exact (ih _).mpr ⟨q, hall q hq, rfl⟩
theorem toSRxCat_lang (wk : Expr → String) : ∀ (es : ExprL), Check.NoDDL es = true → NoEmptyAltL es = true →
    ∀ (i : Nat) (w : List String),
      Lang (toSRxCat wk es) w ↔ ∃ ps, es.denSeq i ps ∧ ps.map (keyAt (leafKeysL wk es) i) = w
  | .nil => fun _ _ i w => by
    simp only [toSRxCat, ExprL.denSeq, leafKeysL, lang_eps]
    constructor
    · rintro rfl; exact ⟨[], rfl, rfl⟩
    · rintro ⟨ps, rfl, rfl⟩; rfl
  | .cons e es => fun hd hn i w => by
    obtain ⟨hd1, hd2⟩ := Bool.and_eq_true_iff.1 hd
    obtain ⟨hn1, hn2⟩ := Bool.and_eq_true_iff.1 hn
    have ih1 := toSRx_lang wk e hd1 hn1 i
    have ih2 := toSRxCat_lang wk es hd2 hn2 (i + e.leafCount)
    simp only [toSRxCat, ExprL.denSeq, leafKeysL]
    rw [mkCat_lang, lang_cat]
    constructor
    · rintro ⟨u, v, rfl, hu, hv⟩
      obtain ⟨ps1, hp1, rfl⟩ := (ih1 u).mp hu
      obtain ⟨ps2, hp2, rfl⟩ := (ih2 v).mp hv
      exact ⟨ps1 ++ ps2, ⟨ps1, ps2, rfl, hp1, hp2⟩, map_keyAt_append wk e _ i
        (denPos_range e i ps1 hp1) (fun p hp => (denSeq_range es _ ps2 hp2 p hp).1)⟩
    · rintro ⟨ps, ⟨ps1, ps2, rfl, hp1, hp2⟩, rfl⟩
      exact ⟨_, _, map_keyAt_append wk e _ i (denPos_range e i ps1 hp1)
        (fun p hp => (denSeq_range es _ ps2 hp2 p hp).1), (ih1 _).mpr ⟨ps1, hp1, rfl⟩,
        (ih2 _).mpr ⟨ps2, hp2, rfl⟩⟩
theorem toSRxAlt_lang (wk : Expr → String) : ∀ (es : ExprL), es ≠ .nil → Check.NoDDL es = true →
    NoEmptyAltL es = true → ∀ (i : Nat) (w : List String),
      Lang (toSRxAlt wk es) w ↔ ∃ ps, es.denAlt i ps ∧ ps.map (keyAt (leafKeysL wk es) i) = w
  | .nil => fun h => absurd rfl h
  | .cons e .nil => fun _ hd hn i w => by
    simp only [toSRxAlt, ExprL.denAlt, leafKeysL, List.append_nil, or_false]
    exact toSRx_lang wk e (Bool.and_eq_true_iff.1 hd).1 (Bool.and_eq_true_iff.1 hn).1 i w
  | .cons e (.cons e2 es) => fun _ hd hn i w => by
    obtain ⟨hd1, hd2⟩ := Bool.and_eq_true_iff.1 hd
    obtain ⟨hn1, hn2⟩ := Bool.and_eq_true_iff.1 hn
    have ih1 := toSRx_lang wk e hd1 hn1 i w
    have ih2 := toSRxAlt_lang wk (.cons e2 es) (fun h => by cases h) hd2 hn2 (i + e.leafCount) w
    simp only [toSRxAlt, lang_alt]
    rw [ih1, ih2]
    generalize ExprL.cons e2 es = rest
    simp only [ExprL.denAlt, leafKeysL]
    -- a word of one alternative, seen as `ps ++ []` or `[] ++ ps`
    have left : ∀ ps, e.denPos i ps → ps.map (keyAt (leafKeys wk e ++ leafKeysL wk rest) i) =
        ps.map (keyAt (leafKeys wk e) i) := fun ps hp => by
      simpa using map_keyAt_append wk e (leafKeysL wk rest) i (ps2 := []) (denPos_range e i ps hp)
        (fun _ h => by cases h)
    have right : ∀ ps, rest.denAlt (i + e.leafCount) ps →
        ps.map (keyAt (leafKeys wk e ++ leafKeysL wk rest) i) =
          ps.map (keyAt (leafKeysL wk rest) (i + e.leafCount)) := fun ps hp => by
      simpa using map_keyAt_append wk e (leafKeysL wk rest) i (ps1 := []) (fun _ h => by cases h)
        (fun p hq => (denAlt_range _ _ ps hp p hq).1)
    constructor
    · rintro (⟨ps, hp, rfl⟩ | ⟨ps, hp, rfl⟩)
      · exact ⟨ps, .inl hp, left ps hp⟩
      · exact ⟨ps, .inr hp, right ps hp⟩
    · rintro ⟨ps, (hp | hp), rfl⟩
      · exact .inl ⟨ps, hp, (left ps hp).symm⟩
      · exact .inr ⟨ps, hp, (right ps hp).symm⟩
end

/-- **The automaton of an expression's regular expression accepts exactly the key sequences of the
expression's words**, whenever its construction finished within its budget. -/
theorem toKAuto_denPos (wk : Expr → String) (e : Expr) (hd : Check.NoDD e = true) (hn : NoEmptyAlt e = true)
    (hfin : Finished (toSRx wk e)) (kw : List String) :
    (toSRx wk e).toKAuto.accepts kw = true ↔
      ∃ ps, e.denPos 0 ps ∧ ps.map (keyAt (leafKeys wk e) 0) = kw := by
  rw [toKAuto_correct _ hfin, toSRx_lang wk e hd hn 0]

/-- **The oracle of the run has the semantics of the theorem**: the automaton of the grammar's meaning
(`specAuto`, the one every implementation automaton is compared with) accepts exactly the key
sequences of the words (`denPos`) of `Spec.meaning g sh`. -/
theorem specAuto_correct (g : Grammar) (sh : Shell) (hn : NoEmptyAlt (meaning g sh) = true)
    (hfin : Finished (toSRx wordKey (meaning g sh))) (kw : List String) :
    (specAuto g sh).accepts kw = true ↔
      ∃ ps, (meaning g sh).denPos 0 ps ∧ ps.map (keyAt (leafKeys wordKey (meaning g sh)) 0) = kw := by
  unfold specAuto
  exact toKAuto_denPos wordKey _ (Check.meaningAt_noDD default g sh) hn hfin kw

end Complgen.Spec
