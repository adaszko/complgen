/-
The keys of the leaves of an expression (as `Spec.toSRx` names them) and the positions `denPos`
numbers them with — the bookkeeping behind `Proofs/SpecAuto.lean`.
-/
import Complgen.Spec.Den
import Complgen.Spec.Lang
namespace Complgen.Spec

def keyOf (wk : Expr → String) (e : Expr) : String :=
  match toSRx wk e with
  | .sym k => k
  | _ => ""

mutual
def leafKeys (wk : Expr → String) : Expr → List String
  | .seq cs _ | .alt cs _ | .fb cs _ => leafKeysL wk cs
  | .opt c _ | .many1 c _ => leafKeys wk c
  | .dd .. => []
  | e => [keyOf wk e]
def leafKeysL (wk : Expr → String) : ExprL → List String
  | .nil => []
  | .cons e es => leafKeys wk e ++ leafKeysL wk es
end

mutual
theorem leafKeys_length (wk : Expr → String) : ∀ e : Expr, (leafKeys wk e).length = e.leafCount
  | .term .. | .nonterm .. | .cmd .. | .sub .. | .dd .. => rfl
  | .seq cs _ | .alt cs _ | .fb cs _ => by
    simp only [leafKeys, Expr.leafCount, leafKeysL_length wk cs]
  | .opt c _ | .many1 c _ => by simp only [leafKeys, Expr.leafCount, leafKeys_length wk c]
theorem leafKeysL_length (wk : Expr → String) : ∀ es : ExprL, (leafKeysL wk es).length = es.leafCount
  | .nil => rfl
  | .cons e es => by
    simp only [leafKeysL, ExprL.leafCount, List.length_append, leafKeys_length wk e,
      leafKeysL_length wk es]
end

mutual
theorem denPos_range : ∀ (e : Expr) (i : Nat) (w : List Nat), e.denPos i w → ∀ p ∈ w, i ≤ p ∧ p < i + e.leafCount
  | .term .. | .nonterm .. | .cmd .. | .sub .. => fun i w h p hp => by
    simp only [Expr.denPos] at h
    rw [h, List.mem_singleton] at hp
    simp only [hp, Expr.leafCount]
    omega
  | .dd .. => fun i w h p hp => by
    simp only [Expr.denPos] at h
    rw [h] at hp
    cases hp
  | .seq cs _ => fun i w h p hp => denSeq_range cs i w h p hp
  | .alt cs _ | .fb cs _ => fun i w h p hp => denAlt_range cs i w h p hp
  | .opt c _ => fun i w h p hp => by
    simp only [Expr.denPos] at h
    rcases h with rfl | h
    · cases hp
    · exact denPos_range c i w h p hp
  | .many1 c _ => fun i w h p hp => by
    simp only [Expr.denPos] at h
    obtain ⟨ws, _, rfl, hall⟩ := h
    obtain ⟨u, hu, hpu⟩ := List.mem_flatten.mp hp
    exact denPos_range c i u (hall u hu) p hpu
theorem denSeq_range : ∀ (es : ExprL) (i : Nat) (w : List Nat), es.denSeq i w → ∀ p ∈ w, i ≤ p ∧ p < i + es.leafCount
  | .nil => fun i w h p hp => by
    simp only [ExprL.denSeq] at h
    rw [h] at hp
    cases hp
  | .cons e es => fun i w h p hp => by
    simp only [ExprL.denSeq] at h
    obtain ⟨u, v, rfl, hu, hv⟩ := h
    simp only [ExprL.leafCount]
    rcases List.mem_append.mp hp with h1 | h1
    · have := denPos_range e i u hu p h1; omega
    · have := denSeq_range es _ v hv p h1; omega
theorem denAlt_range : ∀ (es : ExprL) (i : Nat) (w : List Nat), es.denAlt i w → ∀ p ∈ w, i ≤ p ∧ p < i + es.leafCount
  | .nil => fun i w h => by simp only [ExprL.denAlt] at h
  | .cons e es => fun i w h p hp => by
    simp only [ExprL.denAlt] at h
    simp only [ExprL.leafCount]
    rcases h with h | h
    · have := denPos_range e i w h p hp; omega
    · have := denAlt_range es _ w h p hp; omega
end

end Complgen.Spec
