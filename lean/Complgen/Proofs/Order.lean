/-
C14: the order in which the definitions are written does not matter.  `Spec.meaning` looks a name up
with "the first statement that …"; when at most one statement qualifies (which validation enforces)
the answer is the same for every permutation of the statements that keeps the call variants in their
order.  With `validate_expr_eq_meaning` this transfers to the model of check.rs.
-/
import Complgen.Proofs.Verdict
namespace Complgen.Check

theorem findSome?_perm {α β} (f : α → Option β) (l l' : List α) (hp : l.Perm l')
    (h1 : (l.filterMap f).length ≤ 1) : l.findSome? f = l'.findSome? f := by
  rw [← List.head?_filterMap, ← List.head?_filterMap]
  have hp' := hp.filterMap f
  cases hl : l.filterMap f with
  | nil =>
    rw [hl] at hp'
    rw [hp'.nil_eq.symm]
  | cons a t =>
    rw [hl] at h1 hp'
    have : t = [] := by
      cases t with
      | nil => rfl
      | cons b t' => simp at h1
    subst this
    rw [(hp'.symm).eq_singleton]

def UniqueDefs (sh : Shell) (g : Grammar) : Prop :=
  ∀ n, (g.filterMap (specFor sh n)).length ≤ 1 ∧ (g.filterMap (plainFor n)).length ≤ 1

theorem pick_perm (sh : Shell) (g g' : Grammar) (hp : g.Perm g') (hu : UniqueDefs sh g) (n : String) :
    Spec.pick sh g' n = Spec.pick sh g n := by
  rw [pick_unfold, pick_unfold, findSome?_perm _ g g' hp (hu n).1, findSome?_perm _ g g' hp (hu n).2]

theorem expand_congr_on (sh : Shell) (g g' : Grammar) (S : String → Prop)
    (hpk : ∀ n, S n → Spec.pick sh g' n = Spec.pick sh g n)
    (hbody : ∀ n d, S n → Spec.pick sh g n = .expr d → ∀ m ∈ Spec.names (Spec.distr d none).1, S m) :
    ∀ k : Nat, (∀ e : Expr, (∀ m ∈ Spec.names e, S m) → Spec.expand sh g' k e = Spec.expand sh g k e) ∧
      (∀ es : ExprL, (∀ m ∈ Spec.namesL es, S m) → Spec.expandL sh g' k es = Spec.expandL sh g k es)
  | 0 => ⟨fun e _ => by simp [Spec.expand], fun es _ => by simp [Spec.expandL]⟩
  | k + 1 => by
    have ih := expand_congr_on sh g g' S hpk hbody k
    refine ⟨fun e hn => ?_, expandL_step k ih.1⟩
    cases e with
    | term t d l s => simp [Spec.expand]
    | cmd c a l s => simp [Spec.expand]
    | nonterm n l s =>
      have hS : S n := hn n (by simp [Spec.names])
      simp only [Spec.expand, hpk n hS]
      cases hp : Spec.pick sh g n with
      | command c a => rfl
      | anyWord => rfl
      | expr d => exact ih.1 _ (hbody n d hS hp)
    | dd c _ _ | sub c _ _ | opt c _ | many1 c _ => simp only [Spec.expand, Spec.names] at hn ⊢; rw [ih.1 c hn]
    | seq cs _ | alt cs _ | fb cs _ => simp only [Spec.expand, Spec.names] at hn ⊢; rw [ih.2 cs hn]
where
  /-- `expandL` hands its own fuel on to the tail of the list -/
  expandL_step (k : Nat)
      (hE : ∀ e : Expr, (∀ m ∈ Spec.names e, S m) → Spec.expand sh g' k e = Spec.expand sh g k e) :
      ∀ es : ExprL, (∀ m ∈ Spec.namesL es, S m) → Spec.expandL sh g' (k + 1) es = Spec.expandL sh g (k + 1) es
    | .nil, _ => by simp [Spec.expandL]
    | .cons e es, h => by
      simp only [Spec.namesL, List.mem_append] at h
      simp [Spec.expandL, hE e fun m hm => h m (.inl hm), expandL_step k hE es fun m hm => h m (.inr hm)]

/-- **The meaning of a grammar does not depend on the order of its statements**, as long as the call
variants keep their order and no name is defined twice (for the shell / plainly). -/
theorem meaningAt_perm (sp : Span) (sh : Shell) (g g' : Grammar) (hp : g.Perm g') (hu : UniqueDefs sh g)
    (hc : Spec.callBodies g' = Spec.callBodies g) : Spec.meaningAt sp g' sh = Spec.meaningAt sp g sh := by
  rw [meaningAt_eq, meaningAt_eq, (hp.map stmtSize).symm.sum_nat]
  unfold Spec.topOf
  rw [hc, (expand_congr_on sh g g' (fun _ => True) (fun n _ => pick_perm sh g g' hp hu n)
    (fun _ _ _ _ _ _ => trivial) _).1 _ fun _ _ => trivial]

theorem filter_key_le_one {α} (n : String) : ∀ l : List (String × α), (l.map (·.1)).Nodup →
    (l.filter (·.1 == n)).length ≤ 1
  | [], _ => by simp
  | x :: xs, h => by
    simp only [List.map_cons, List.nodup_cons] at h
    by_cases hx : x.1 = n
    · have : xs.filter (·.1 == n) = [] := by
        apply List.filter_eq_nil_iff.mpr
        intro y hy hyn
        apply h.1
        have : y.1 = x.1 := by rw [hx]; simpa using hyn
        rw [← this]
        exact List.mem_map.mpr ⟨y, hy, rfl⟩
      simp [hx, this]
    · have hb : (x.1 == n) = false := by simpa using hx
      simp only [List.filter_cons, hb, Bool.false_eq_true, if_false]
      exact filter_key_le_one n xs h.2

theorem uniqueDefs_of_validate (g : Grammar) (sh : Shell) (v : Valid) (h : validate g sh = .ok v) :
    UniqueDefs sh g := by
  obtain ⟨_, w, _, _⟩ := accepted_real g sh v h
  intro n
  constructor
  · rw [filterMap_specFor sh n g w.specs.1, List.length_map]
    apply filter_key_le_one
    rw [specList_keys]
    exact (targetSpecsDistinct_iff g sh).mp w.specs.2.2
  · rw [filterMap_plainFor, List.length_map]
    exact filter_key_le_one n _ w.plain

/-- **The order of the definitions does not change what validation returns**: two grammars with the
same statements, the call variants in the same order, both accepted for a shell, have the same
validated expression (hence the same automaton and the same scripts). -/
theorem validate_perm (g g' : Grammar) (sh : Shell) (v v' : Valid) (hp : g.Perm g')
    (hc : callsOf g' = callsOf g) (h : validate g sh = .ok v) (h' : validate g' sh = .ok v') :
    v'.expr = v.expr := by
  rw [validate_expr_eq_meaning g sh v h, validate_expr_eq_meaning g' sh v' h']
  have hts : topSpan g' = topSpan g := by unfold topSpan; rw [hc]
  rw [hts]
  exact meaningAt_perm _ sh g g' hp (uniqueDefs_of_validate g sh v h) (by rw [spec_calls, spec_calls, hc])

end Complgen.Check
