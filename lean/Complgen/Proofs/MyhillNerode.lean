/-
Counting with duplicate-free lists, for the certificate checkers and for minimality: `eraseDups`
yields such a list; an injective relation from one into a list bounds its length.  From the latter
the Myhill–Nerode bound for partial deterministic automata, over whatever represents them: a
reduced trim automaton has no more states than any automaton for the same language.
-/
namespace Complgen

theorem nodup_eraseDups {α} [BEq α] [LawfulBEq α] (l : List α) : l.eraseDups.Nodup := by
  -- by induction on the length: `eraseDups` goes on with a filtered tail
  generalize hn : l.length = n
  induction n using Nat.strongRecOn generalizing l with
  | ind n ih =>
    cases l with
    | nil => simp
    | cons x l =>
      rw [List.eraseDups_cons, List.nodup_cons, List.mem_eraseDups, List.mem_filter]
      refine ⟨fun h => by simp at h, ih _ ?_ _ rfl⟩
      have := List.length_filter_le (fun b => !b == x) l
      simp only [List.length_cons] at hn
      omega

theorem length_le_of_rel_inj {R : Nat → Nat → Prop} : ∀ (l l' : List Nat), l.Nodup →
    (∀ x ∈ l, ∃ y ∈ l', R x y) →
    (∀ x ∈ l, ∀ x' ∈ l, ∀ y, R x y → R x' y → x = x') → l.length ≤ l'.length
  | [], _, _, _, _ => by simp
  | x :: l, l', hnd, hex, hinj => by
    obtain ⟨y, hy, hxy⟩ := hex x (by simp)
    have hnd' := List.nodup_cons.1 hnd
    have ih := length_le_of_rel_inj l (l'.erase y) hnd'.2
      (by
        intro x' hx'
        obtain ⟨y', hy', hxy'⟩ := hex x' (List.mem_cons_of_mem _ hx')
        refine ⟨y', ?_, hxy'⟩
        have hne : y' ≠ y := by
          rintro rfl
          have := hinj x (by simp) x' (List.mem_cons_of_mem _ hx') y' hxy hxy'
          exact hnd'.1 (this ▸ hx')
        exact (List.mem_erase_of_ne hne).2 hy')
      (fun x1 h1 x2 h2 y' r1 r2 =>
        hinj x1 (List.mem_cons_of_mem _ h1) x2 (List.mem_cons_of_mem _ h2) y' r1 r2)
    rw [List.length_erase_of_mem hy] at ih
    have : 0 < l'.length := List.length_pos_of_mem hy
    simp only [List.length_cons]
    omega

/-- Two automata `A`, `B` are given by the state reached from the start on a word (`runA`, `runB`),
acceptance from a state (`accA`, `accB`) and their languages, which decompose along runs (`hA`,
`hB`).  If the states `QA` of `A` are reachable, can reach acceptance and are pairwise told apart
by a word, and `B` has the language of `A`, then `B` has at least as many states: the relation
"reached by the same word" is injective from `QA` into the states of `B`. -/
theorem card_le_of_reduced_trim {κ : Type} {QA QB : List Nat}
    {runA runB : List κ → Option Nat} {accA accB : Nat → List κ → Bool} {LA LB : List κ → Bool}
    (hA : ∀ u v, LA (u ++ v) = match runA u with | some q => accA q v | none => false)
    (hB : ∀ u v, LB (u ++ v) = match runB u with | some q => accB q v | none => false)
    (hQB : ∀ u s, runB u = some s → s ∈ QB) (hnd : QA.Nodup)
    (hacc : ∀ q ∈ QA, ∃ u, runA u = some q) (hco : ∀ q ∈ QA, ∃ v, accA q v = true)
    (hred : ∀ p ∈ QA, ∀ q ∈ QA, p ≠ q → ∃ v, accA p v ≠ accA q v)
    (hL : ∀ w, LB w = LA w) : QA.length ≤ QB.length := by
  apply length_le_of_rel_inj (R := fun q s => ∃ u, runA u = some q ∧ runB u = some s) QA QB hnd
  · intro q hq
    obtain ⟨u, hu⟩ := hacc q hq
    obtain ⟨v, hv⟩ := hco q hq
    have h1 : LB (u ++ v) = true := by
      rw [hL, hA, hu]
      exact hv
    rw [hB] at h1
    cases hb : runB u with
    | none =>
      rw [hb] at h1
      cases h1
    | some s => exact ⟨s, hQB u s hb, u, hu, hb⟩
  · rintro q hq q' hq' s ⟨u, hu, hbu⟩ ⟨u', hu', hbu'⟩
    apply Classical.byContradiction
    intro hne
    obtain ⟨v, hv⟩ := hred q hq q' hq' hne
    apply hv
    have e1 : accA q v = accB s v := by
      have := hL (u ++ v)
      rw [hA, hB, hu, hbu] at this
      exact this.symm
    have e2 : accA q' v = accB s v := by
      have := hL (u' ++ v)
      rw [hA, hB, hu', hbu'] at this
      exact this.symm
    rw [e1, e2]

end Complgen
