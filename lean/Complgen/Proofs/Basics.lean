/-
Facts about the list helpers of the model and about `Auto.step`, states and runs that several proofs
share.  Defined here because the statements about the minimiser are phrased with them: acceptance
from a state (`Min.accFrom`) and the hypotheses on the input automaton (`Min.WF`, `Min.CoAcc`,
`Min.Access`).
-/
import Complgen.Spec.Lang
namespace Complgen

deriving instance ReflBEq, LawfulBEq for Inp

theorem flatten_eq_cons {α} {x : α} {w : List α} : ∀ {ws : List (List α)}, ws.flatten = x :: w →
    ∃ (u : List α) (ws' : List (List α)),
      (x :: u) ∈ ws ∧ (∀ v ∈ ws', v ∈ ws) ∧ w = u ++ ws'.flatten
  | [], h => by simp at h
  | [] :: ws, h => by
    obtain ⟨u, ws', h1, h2, h3⟩ := flatten_eq_cons (ws := ws) (by simpa using h)
    exact ⟨u, ws', List.mem_cons_of_mem _ h1, fun v hv => List.mem_cons_of_mem _ (h2 v hv), h3⟩
  | (y :: u) :: ws, h => by
    simp only [List.flatten_cons, List.cons_append, List.cons.injEq] at h
    obtain ⟨rfl, rfl⟩ := h
    exact ⟨u, ws, List.mem_cons_self .., fun v hv => List.mem_cons_of_mem _ hv, rfl⟩

namespace Min

theorem mem_insertSorted {a x : Nat} {l : List Nat} :
    a ∈ insertSorted x l ↔ a = x ∨ a ∈ l := by
  induction l with
  | nil => simp [insertSorted]
  | cons y ys ih =>
    simp only [insertSorted]
    split
    · simp
    · split
      · rename_i h
        have hxy : x = y := by simpa using h
        subst hxy
        simp
      · simp only [List.mem_cons, ih]
        exact or_left_comm

theorem mem_foldl_insertSorted {a : Nat} (l init : List Nat) :
    a ∈ l.foldl (fun acc x => insertSorted x acc) init ↔ a ∈ init ∨ a ∈ l := by
  induction l generalizing init with
  | nil => simp
  | cons x xs ih =>
    simp only [List.foldl_cons, ih, mem_insertSorted, List.mem_cons]
    rw [or_assoc]
    exact or_left_comm

theorem mem_normSet {a : Nat} {l : List Nat} : a ∈ normSet l ↔ a ∈ l := by
  simp [normSet, mem_foldl_insertSorted]

section Dedup
variable {α : Type} [BEq α] [LawfulBEq α]

theorem mem_foldl_dedup {a : α} (l init : List α) :
    a ∈ l.foldl (fun acc x => if acc.contains x then acc else acc ++ [x]) init ↔
      a ∈ init ∨ a ∈ l := by
  induction l generalizing init with
  | nil => simp
  | cons x xs ih =>
    rw [List.foldl_cons, ih, List.mem_cons]
    split
    · rename_i h
      have hx : x ∈ init := by simpa using h
      constructor
      · rintro (h | h)
        · exact .inl h
        · exact .inr (.inr h)
      · rintro (h | rfl | h)
        · exact .inl h
        · exact .inl hx
        · exact .inr h
    · simp only [List.mem_append, List.mem_singleton]
      exact or_assoc

theorem nodup_foldl_dedup (l : List α) : ∀ (init : List α), init.Nodup →
    (l.foldl (fun acc x => if acc.contains x then acc else acc ++ [x]) init).Nodup := by
  induction l with
  | nil => intro init h; exact h
  | cons x xs ih =>
    intro init h
    rw [List.foldl_cons]
    apply ih
    split
    · exact h
    · rename_i hx
      have hx : x ∉ init := by simpa using hx
      rw [List.nodup_append]
      refine ⟨h, by simp, ?_⟩
      intro a ha b hb
      simp only [List.mem_singleton] at hb
      subst hb
      rintro rfl
      exact hx ha

end Dedup

theorem mem_dedup {a : Nat} {l : List Nat} : a ∈ dedup l ↔ a ∈ l := by
  rw [dedup, mem_foldl_dedup]
  simp

theorem nodup_dedup (l : List Nat) : (dedup l).Nodup :=
  nodup_foldl_dedup l [] List.nodup_nil

theorem mem_internInps {l : List Inp} {x : Inp} : x ∈ internInps l ↔ x ∈ l := by
  rw [internInps, mem_foldl_dedup]
  simp

theorem mem_of_mem_removeNth {α} {x : α} : ∀ {l : List α} {k : Nat}, x ∈ removeNth l k → x ∈ l
  | [], _, h => by simp [removeNth] at h
  | y :: ys, 0, h => by
    simp only [removeNth] at h
    exact List.mem_cons_of_mem _ h
  | y :: ys, k + 1, h => by
    simp only [removeNth] at h
    rcases List.mem_cons.1 h with rfl | h
    · simp
    · exact List.mem_cons_of_mem _ (mem_of_mem_removeNth h)

theorem mem_removeNth {α} {x : α} : ∀ {l : List α} {k : Nat},
    x ∈ l → x ∈ removeNth l k ∨ l[k]? = some x
  | [], _, h => by simp at h
  | y :: ys, 0, h => by
    simp only [removeNth]
    rcases List.mem_cons.1 h with rfl | h
    · right; simp
    · left; exact h
  | y :: ys, k + 1, h => by
    simp only [removeNth]
    rcases List.mem_cons.1 h with rfl | h
    · left; simp
    · rcases mem_removeNth (k := k) h with h | h
      · left; exact List.mem_cons_of_mem _ h
      · right; simpa using h

theorem length_removeNth {α} : ∀ {l : List α} {k : Nat}, k < l.length →
    (removeNth l k).length + 1 = l.length
  | [], _, h => by simp at h
  | _ :: _, 0, _ => by simp [removeNth]
  | _ :: xs, k + 1, h => by
    have := length_removeNth (l := xs) (k := k) (by simpa using h)
    simp only [removeNth, List.length_cons]
    omega

theorem step_eq_some {a : Auto} {q i q' : Nat} (h : a.step q i = some q') :
    ∃ t ∈ a.trans, t.1 = q ∧ t.2.1 = i ∧ t.2.2 = q' := by
  unfold Auto.step at h
  rw [Option.map_eq_some_iff] at h
  obtain ⟨t, ht, hq'⟩ := h
  have hp := List.find?_some ht
  simp only [Bool.and_eq_true, beq_iff_eq] at hp
  exact ⟨t, List.mem_of_find?_eq_some ht, hp.1, hp.2, hq'⟩

theorem step_eq_none {a : Auto} {q i : Nat} (h : a.step q i = none) :
    ∀ t ∈ a.trans, ¬ (t.1 = q ∧ t.2.1 = i) := by
  unfold Auto.step at h
  rw [Option.map_eq_none_iff, List.find?_eq_none] at h
  intro t ht hc
  exact h t ht (by simp [hc.1, hc.2])

theorem step_some_of {b : Auto} {q i q' : Nat} (hex : ∃ t ∈ b.trans, t.1 = q ∧ t.2.1 = i)
    (hall : ∀ t ∈ b.trans, t.1 = q → t.2.1 = i → t.2.2 = q') : b.step q i = some q' := by
  cases h : b.step q i with
  | none =>
    obtain ⟨t, ht, hc⟩ := hex
    exact absurd hc (step_eq_none h t ht)
  | some q'' =>
    obtain ⟨t, ht, h1, h2, h3⟩ := step_eq_some h
    rw [← h3, hall t ht h1 h2]

theorem step_of_mem {a : Auto}
    (hdet : ∀ t1 ∈ a.trans, ∀ t2 ∈ a.trans, t1.1 = t2.1 → t1.2.1 = t2.2.1 → t1.2.2 = t2.2.2)
    {t : Nat × Nat × Nat} (ht : t ∈ a.trans) : a.step t.1 t.2.1 = some t.2.2 :=
  step_some_of ⟨t, ht, rfl, rfl⟩ (fun t' ht' e1 e2 => hdet t' ht' t ht e1 e2)

theorem step_none_of {b : Auto} {q i : Nat} (hall : ∀ t ∈ b.trans, ¬ (t.1 = q ∧ t.2.1 = i)) :
    b.step q i = none := by
  cases h : b.step q i with
  | none => rfl
  | some q'' =>
    obtain ⟨t, ht, h1, h2, _⟩ := step_eq_some h
    exact absurd ⟨h1, h2⟩ (hall t ht)

theorem mem_states {a : Auto} {q : Nat} :
    q ∈ a.states ↔ q = a.start ∨ ∃ t ∈ a.trans, q = t.1 ∨ q = t.2.2 := by
  simp only [Auto.states, mem_dedup, List.mem_cons, List.mem_flatMap, List.not_mem_nil, or_false]

/-- so `a.states.length` is the number of states of `a` -/
theorem states_nodup (a : Auto) : a.states.Nodup := nodup_dedup _

theorem run_append (a : Auto) : ∀ (u v : List Nat) (q : Nat),
    a.run q (u ++ v) = (a.run q u).bind fun q' => a.run q' v
  | [], v, q => rfl
  | i :: u, v, q => by
    simp only [List.cons_append, Auto.run]
    cases a.step q i with
    | none => rfl
    | some q' => exact run_append a u v q'

theorem run_mem {a : Auto} : ∀ (w : List Nat) (q q' : Nat), a.run q w = some q' →
    q' = q ∨ ∃ t ∈ a.trans, t.2.2 = q'
  | [], q, q', h => by simp only [Auto.run, Option.some.injEq] at h; exact .inl h.symm
  | i :: w, q, q', h => by
    simp only [Auto.run] at h
    cases hs : a.step q i with
    | none => simp [hs] at h
    | some q1 =>
      simp only [hs] at h
      rcases run_mem w q1 q' h with rfl | h'
      · obtain ⟨t, ht, _, _, h3⟩ := step_eq_some hs
        exact .inr ⟨t, ht, h3⟩
      · exact .inr h'

theorem run_mem_states {a : Auto} {w : List Nat} {q q' : Nat} (hq : q ∈ a.states)
    (h : a.run q w = some q') : q' ∈ a.states := by
  rcases run_mem w q q' h with rfl | ⟨t, ht, rfl⟩
  · exact hq
  · exact mem_states.2 (.inr ⟨t, ht, .inr rfl⟩)

def accFrom (a : Auto) (q : Nat) (w : List Nat) : Bool :=
  match a.run q w with
  | some q' => a.acc.contains q'
  | none => false

theorem accepts_eq (a : Auto) (w : List Nat) : a.accepts w = accFrom a a.start w := rfl

theorem accFrom_nil (a : Auto) (q : Nat) : accFrom a q [] = a.acc.contains q := rfl

theorem accFrom_cons (a : Auto) (q i : Nat) (w : List Nat) :
    accFrom a q (i :: w) = match a.step q i with
      | some q' => accFrom a q' w
      | none => false := by
  unfold accFrom
  simp only [Auto.run]
  cases a.step q i <;> rfl

theorem accFrom_append (a : Auto) (u v : List Nat) (q : Nat) :
    accFrom a q (u ++ v) = match a.run q u with
      | some q' => accFrom a q' v
      | none => false := by
  unfold accFrom
  rw [run_append]
  cases a.run q u <;> rfl

/-- Well-formedness of the input automaton.
* `0` is not a state (it is the implicit dead state of the completion);
* at most one target per (state, input) — duplicated identical transitions are allowed;
* the input indices of the transitions are `< inputs.length` (the refinement only looks at these);
* every accepting state is reachable from the start (the renumbering sends a state that no
  longer occurs to `0`, the new number of the start state). -/
def WF (a : Auto) : Prop :=
  0 ∉ a.states ∧
  (∀ t1 ∈ a.trans, ∀ t2 ∈ a.trans, t1.1 = t2.1 → t1.2.1 = t2.2.1 → t1.2.2 = t2.2.2) ∧
  (∀ t ∈ a.trans, t.2.1 < a.inputs.length) ∧
  (∀ q ∈ a.acc, ∃ w, a.run a.start w = some q)

def CoAcc (a : Auto) : Prop := ∀ q ∈ a.states, ∃ w, accFrom a q w = true

def Access (a : Auto) : Prop := ∀ q ∈ a.states, ∃ w, a.run a.start w = some q

section WFfacts
variable {a : Auto} (hwf : WF a)
include hwf

theorem WF.src_ne_zero : ∀ t ∈ a.trans, t.1 ≠ 0 := by
  intro t ht h
  exact hwf.1 (mem_states.2 (.inr ⟨t, ht, .inl h.symm⟩))

theorem WF.tgt_ne_zero : ∀ t ∈ a.trans, t.2.2 ≠ 0 := by
  intro t ht h
  exact hwf.1 (mem_states.2 (.inr ⟨t, ht, .inr h.symm⟩))

theorem WF.acc_states : ∀ q ∈ a.acc, q ∈ a.states := by
  intro q hq
  obtain ⟨w, hw⟩ := hwf.2.2.2 q hq
  exact run_mem_states (mem_states.2 (.inl rfl)) hw

theorem WF.zero_not_acc : 0 ∉ a.acc := fun h => hwf.1 (hwf.acc_states 0 h)

end WFfacts

end Min

theorem Regex.mem_full_positions {r : Regex} {q : Nat} :
    q ∈ r.full.positions ↔ q ∈ r.root.positions ∨ q = r.endPos := by
  simp [Regex.full, Rx.positions, Rx.positionsL]

theorem Regex.full_positions_le {r : Regex} (hpos : ∀ q ∈ r.root.positions, q ≤ r.endPos) :
    ∀ q ∈ r.full.positions, q ≤ r.endPos := by
  intro q hq
  rcases Regex.mem_full_positions.1 hq with hq | rfl
  · exact hpos q hq
  · exact Nat.le_refl _

theorem Rx.linear_end {root : Rx} {e : Nat} (hl : root.Linear) (he : e ∉ root.positions) :
    (Rx.cat (.cons root (.cons (.sym e) .nil))).Linear := by
  simp only [Rx.Linear, Rx.positions, Rx.positionsL, List.append_nil]
  rw [List.nodup_append]
  refine ⟨hl, by simp, ?_⟩
  intro a ha b hb
  rw [List.mem_singleton.1 hb]
  rintro rfl
  exact he ha

theorem Regex.full_last (r : Regex) : r.full.last = [r.endPos] := by
  simp [Regex.full, Rx.last, Rx.lastCat, Rx.nullableAll, Rx.nullable]

theorem PosPath.front {F : List Nat} {fo : Nat → List Nat} {l cur : List Nat}
    (h : PosPath F fo l cur) :
    (l = [] ∧ cur = F) ∨ ∃ x ps, l = x :: ps ∧ x ∈ F ∧ PosPath (fo x) fo ps cur := by
  induction h with
  | nil => exact .inl ⟨rfl, rfl⟩
  | snoc q _ hq ih =>
    right
    rcases ih with ⟨rfl, rfl⟩ | ⟨x, ps, rfl, hx, hpath⟩
    · exact ⟨q, [], rfl, hq, .nil⟩
    · exact ⟨x, ps ++ [q], rfl, hx, .snoc q hpath hq⟩

theorem PosPath.nil_iff {F : List Nat} {fo : Nat → List Nat} {cur : List Nat} :
    PosPath F fo [] cur ↔ cur = F := by
  constructor
  · intro h
    rcases h.front with ⟨_, h⟩ | ⟨_, _, h, _⟩
    · exact h
    · cases h
  · rintro rfl
    exact .nil

theorem PosPath.cons_iff {F : List Nat} {fo : Nat → List Nat} {x : Nat} {ps cur : List Nat} :
    PosPath F fo (x :: ps) cur ↔ x ∈ F ∧ PosPath (fo x) fo ps cur := by
  constructor
  · intro h
    rcases h.front with ⟨h, _⟩ | ⟨_, _, h, hx, hpath⟩
    · cases h
    · cases h
      exact ⟨hx, hpath⟩
  · rintro ⟨hx, h⟩
    induction h with
    | nil => exact .snoc (ps := []) x .nil hx
    | @snoc ps0 _ q _ hq ih => exact .snoc (ps := x :: ps0) q ih hq

end Complgen
