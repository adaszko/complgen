/-
`minimize` (Hopcroft's partition refinement + quotient + clean-up passes + renumbering) preserves
the language of a well-formed automaton, for EVERY work-list schedule.
-/
import Complgen.Model.Min
import Complgen.Proofs.Basics
namespace Complgen.Min

theorem mem_inter {x : Nat} {a b : Block} : x ∈ inter a b ↔ x ∈ a ∧ x ∈ b := by
  simp [inter]

theorem mem_diff {x : Nat} {a b : Block} : x ∈ diff a b ↔ x ∈ a ∧ x ∉ b := by
  simp [diff]

def SameBlock (P : List Block) (u v : Nat) : Prop := ∃ B ∈ P, u ∈ B ∧ v ∈ B

/-- what the refinement keeps true of the partition, whatever the schedule -/
structure PInv (a : Auto) (P : List Block) : Prop where
  cover : ∀ x ∈ allStates a, ∃ B ∈ P, x ∈ B
  disj : ∀ B ∈ P, ∀ C ∈ P, ∀ x, x ∈ B → x ∈ C → B = C
  hom : ∀ B ∈ P, ∀ p ∈ B, ∀ q ∈ B, (p ∈ a.acc ↔ q ∈ a.acc)
  zero : ∀ B ∈ P, 0 ∈ B → ∀ x ∈ B, x = 0

theorem mem_preimage {a : Auto} {froms X : Block} {i p : Nat} :
    p ∈ preimage a froms X i ↔ p ∈ froms ∧ stepC a p i ∈ X := by
  simp [preimage]

def Sep (a : Auto) (froms X : Block) (i p q : Nat) : Prop :=
  ¬ (p ∈ preimage a froms X i ↔ q ∈ preimage a froms X i)

theorem Sep.symm {a : Auto} {froms X : Block} {i p q : Nat} (h : Sep a froms X i p q) :
    Sep a froms X i q p := fun h' => h h'.symm

/-- Work-list invariant (pair form): two states of one block whose `i`-successors lie in different
blocks are told apart by a splitter still in the work-list, or by the pending part `E` of the
splitter being processed. -/
def WInv (a : Auto) (froms : Block) (n : Nat) (P W : List Block) (E : Nat → Nat → Nat → Prop) : Prop :=
  ∀ B ∈ P, ∀ p ∈ B, ∀ q ∈ B, ∀ i, i < n →
    SameBlock P (stepC a p i) (stepC a q i) ∨ (∃ X ∈ W, Sep a froms X i p q) ∨ E i p q

def splitParts (P : List Block) (y y1 y2 : Block) : List Block := (P.filter (· != y)) ++ [y1, y2]

def splitWork (W : List Block) (y y1 y2 : Block) : List Block :=
  if W.contains y then (W.filter (· != y)) ++ [y1, y2]
  else if y1.length ≤ y2.length then W ++ [y1] else W ++ [y2]

theorem mem_splitParts {P : List Block} {y y1 y2 B : Block} :
    B ∈ splitParts P y y1 y2 ↔ (B ∈ P ∧ B ≠ y) ∨ B = y1 ∨ B = y2 := by
  simp [splitParts]

theorem splitWork_old {W : List Block} {y y1 y2 X : Block} (hX : X ∈ W) (hne : X ≠ y) :
    X ∈ splitWork W y y1 y2 := by
  unfold splitWork
  split
  · simp [hX, hne]
  · split <;> simp [hX]

theorem splitWork_new (W : List Block) (y y1 y2 : Block) :
    y1 ∈ splitWork W y y1 y2 ∨ y2 ∈ splitWork W y y1 y2 := by
  unfold splitWork
  split
  · left; simp
  · split
    · left; simp
    · right; simp

theorem splitWork_both {W : List Block} {y y1 y2 : Block} (hy : y ∈ W) :
    y1 ∈ splitWork W y y1 y2 ∧ y2 ∈ splitWork W y y1 y2 := by
  unfold splitWork
  simp [hy]

theorem mem_splitWork {W : List Block} {y y1 y2 X : Block} (h : X ∈ splitWork W y y1 y2) :
    X ∈ W ∨ X = y1 ∨ X = y2 := by
  unfold splitWork at h
  split at h
  · simp only [List.mem_append, List.mem_filter, List.mem_cons, List.not_mem_nil, or_false] at h
    exact h.imp_left And.left
  · split at h <;> simp only [List.mem_append, List.mem_singleton] at h
    · exact h.imp_right .inl
    · exact h.imp_right .inr

structure IsCut (y y1 y2 : Block) : Prop where
  sub1 : ∀ u ∈ y1, u ∈ y
  sub2 : ∀ u ∈ y2, u ∈ y
  cov : ∀ u ∈ y, u ∈ y1 ∨ u ∈ y2
  disj : ∀ u, u ∈ y1 → u ∈ y2 → False

theorem mem_diff_inter {u : Nat} {y x : Block} : u ∈ diff y (inter y x) ↔ u ∈ y ∧ u ∉ x := by
  rw [mem_diff, mem_inter]
  exact ⟨fun h => ⟨h.1, fun hx => h.2 ⟨h.1, hx⟩⟩, fun h => ⟨h.1, fun hx => h.2 hx.2⟩⟩

theorem isCut_inter (y x : Block) : IsCut y (inter y x) (diff y (inter y x)) where
  sub1 _ hu := (mem_inter.1 hu).1
  sub2 _ hu := (mem_diff.1 hu).1
  cov u hu := by
    by_cases h1 : u ∈ inter y x
    · exact .inl h1
    · exact .inr (mem_diff.2 ⟨hu, h1⟩)
  disj _ h1 h2 := (mem_diff.1 h2).2 h1

section Split
variable {a : Auto} {P : List Block} {y y1 y2 : Block} (hc : IsCut y y1 y2)
include hc

theorem split_sub_old (hy : y ∈ P) : ∀ B' ∈ splitParts P y y1 y2, ∃ B ∈ P, ∀ u ∈ B', u ∈ B := by
  intro B' hB'
  rcases mem_splitParts.1 hB' with ⟨h, _⟩ | rfl | rfl
  · exact ⟨B', h, fun _ h => h⟩
  · exact ⟨y, hy, hc.sub1⟩
  · exact ⟨y, hy, hc.sub2⟩

theorem split_disj (h : ∀ B ∈ P, ∀ C ∈ P, ∀ x, x ∈ B → x ∈ C → B = C) (hy : y ∈ P) :
    ∀ B ∈ splitParts P y y1 y2, ∀ C ∈ splitParts P y y1 y2, ∀ x, x ∈ B → x ∈ C → B = C := by
  intro B hB C hC x hxB hxC
  rcases mem_splitParts.1 hB with ⟨hBP, hBy⟩ | rfl | rfl <;>
    rcases mem_splitParts.1 hC with ⟨hCP, hCy⟩ | rfl | rfl
  · exact h B hBP C hCP x hxB hxC
  · exact absurd (h B hBP y hy x hxB (hc.sub1 x hxC)) hBy
  · exact absurd (h B hBP y hy x hxB (hc.sub2 x hxC)) hBy
  · exact absurd (h C hCP y hy x hxC (hc.sub1 x hxB)) hCy
  · rfl
  · exact (hc.disj x hxB hxC).elim
  · exact absurd (h C hCP y hy x hxC (hc.sub2 x hxB)) hCy
  · exact (hc.disj x hxC hxB).elim
  · rfl

theorem split_PInv (h : PInv a P) (hy : y ∈ P) : PInv a (splitParts P y y1 y2) := by
  have hold := split_sub_old (P := P) hc hy
  refine ⟨?_, split_disj hc h.disj hy, ?_, ?_⟩
  · intro x hx
    obtain ⟨B, hB, hxB⟩ := h.cover x hx
    by_cases hBy : B = y
    · subst hBy
      rcases hc.cov x hxB with h1 | h2
      · exact ⟨y1, mem_splitParts.2 (.inr (.inl rfl)), h1⟩
      · exact ⟨y2, mem_splitParts.2 (.inr (.inr rfl)), h2⟩
    · exact ⟨B, mem_splitParts.2 (.inl ⟨hB, hBy⟩), hxB⟩
  · intro B' hB' p hp q hq
    obtain ⟨B, hB, hs⟩ := hold B' hB'
    exact h.hom B hB p (hs p hp) q (hs q hq)
  · intro B' hB' h0 x hx
    obtain ⟨B, hB, hs⟩ := hold B' hB'
    exact h.zero B hB (hs 0 h0) x (hs x hx)

theorem split_WInv {froms : Block} {n : Nat} {W : List Block} {E : Nat → Nat → Nat → Prop}
    (hfr : ∀ p i, stepC a p i ≠ 0 → p ∈ froms)
    (h : PInv a P) (hy : y ∈ P) (hW : WInv a froms n P W E) :
    WInv a froms n (splitParts P y y1 y2) (splitWork W y y1 y2) E := by
  have hold := split_sub_old (P := P) hc hy
  -- successors on the two sides of the cut are told apart by both halves
  have key : ∀ p q i, stepC a p i ∈ y1 → stepC a q i ∈ y2 →
      ∃ X ∈ splitWork W y y1 y2, Sep a froms X i p q := by
    intro p q i hp1 hq2
    have h0 : (0 : Nat) ∉ y := by
      intro h0
      have e1 := h.zero y hy h0 _ (hc.sub1 _ hp1)
      have e2 := h.zero y hy h0 _ (hc.sub2 _ hq2)
      rw [e1] at hp1; rw [e2] at hq2
      exact hc.disj 0 hp1 hq2
    have hpf : p ∈ froms := hfr p i (fun e => h0 (e ▸ hc.sub1 _ hp1))
    have hqf : q ∈ froms := hfr q i (fun e => h0 (e ▸ hc.sub2 _ hq2))
    rcases splitWork_new W y y1 y2 with hm | hm
    · refine ⟨y1, hm, ?_⟩
      intro hiff
      have := (mem_preimage.1 (hiff.1 (mem_preimage.2 ⟨hpf, hp1⟩))).2
      exact hc.disj _ this hq2
    · refine ⟨y2, hm, ?_⟩
      intro hiff
      have := (mem_preimage.1 (hiff.2 (mem_preimage.2 ⟨hqf, hq2⟩))).2
      exact hc.disj _ hp1 this
  intro B' hB' p hp q hq i hi
  obtain ⟨B, hB, hs⟩ := hold B' hB'
  rcases hW B hB p (hs p hp) q (hs q hq) i hi with ⟨C, hC, hpC, hqC⟩ | ⟨X, hX, hsep⟩ | hE
  · by_cases hCy : C = y
    · subst hCy
      rcases hc.cov _ hpC with hp1 | hp2 <;> rcases hc.cov _ hqC with hq1 | hq2
      · exact .inl ⟨y1, mem_splitParts.2 (.inr (.inl rfl)), hp1, hq1⟩
      · exact .inr (.inl (key p q i hp1 hq2))
      · obtain ⟨X, hX, hsep⟩ := key q p i hq1 hp2
        exact .inr (.inl ⟨X, hX, hsep.symm⟩)
      · exact .inl ⟨y2, mem_splitParts.2 (.inr (.inr rfl)), hp2, hq2⟩
    · exact .inl ⟨C, mem_splitParts.2 (.inl ⟨hC, hCy⟩), hpC, hqC⟩
  · by_cases hXy : X = y
    · subst hXy
      obtain ⟨hm1, hm2⟩ := splitWork_both (y1 := y1) (y2 := y2) hX
      have hpre : ∀ r, r ∈ preimage a froms X i ↔
          (r ∈ preimage a froms y1 i ∨ r ∈ preimage a froms y2 i) := by
        intro r
        simp only [mem_preimage]
        constructor
        · rintro ⟨hf, hr⟩
          rcases hc.cov _ hr with h1 | h2
          · exact .inl ⟨hf, h1⟩
          · exact .inr ⟨hf, h2⟩
        · rintro (⟨hf, h1⟩ | ⟨hf, h2⟩)
          · exact ⟨hf, hc.sub1 _ h1⟩
          · exact ⟨hf, hc.sub2 _ h2⟩
      by_cases hs1 : Sep a froms y1 i p q
      · exact .inr (.inl ⟨y1, hm1, hs1⟩)
      · by_cases hs2 : Sep a froms y2 i p q
        · exact .inr (.inl ⟨y2, hm2, hs2⟩)
        · exfalso
          apply hsep
          unfold Sep at hs1 hs2
          rw [hpre p, hpre q, Classical.not_not.1 hs1, Classical.not_not.1 hs2]
    · exact .inr (.inl ⟨X, splitWork_old hX hXy, hsep⟩)
  · exact .inr (.inr hE)

end Split

def cut (x : Block) (st : HState) (y : Block) : HState :=
  ⟨splitParts st.parts y (inter y x) (diff y (inter y x)),
    splitWork st.work y (inter y x) (diff y (inter y x))⟩

theorem splitAll_cons (x y : Block) (rest : List Block) (st : HState) :
    splitAll x (y :: rest) st =
      if !st.parts.contains y then splitAll x rest st else
      if (inter y x).isEmpty || (diff y (inter y x)).isEmpty then splitAll x rest st else
      splitAll x rest (cut x st y) := rfl

/-- `Q` may mention the blocks that are still to be visited. -/
theorem splitAll_induct {x : Block} {Q : List Block → HState → Prop}
    (skip : ∀ y rest st, Q (y :: rest) st →
      y ∉ st.parts ∨ inter y x = [] ∨ diff y (inter y x) = [] → Q rest st)
    (step : ∀ y rest st, Q (y :: rest) st → y ∈ st.parts → inter y x ≠ [] →
      diff y (inter y x) ≠ [] → Q rest (cut x st y)) :
    ∀ (ys : List Block) (st : HState), Q ys st → Q [] (splitAll x ys st) := by
  intro ys
  induction ys with
  | nil => intro st h; exact h
  | cons y rest ih =>
    intro st h
    rw [splitAll_cons]
    split
    · rename_i hy
      exact ih st (skip y rest st h (.inl (by simpa using hy)))
    · rename_i hy
      split
      · rename_i he
        exact ih st (skip y rest st h (.inr (by simpa using he)))
      · rename_i he
        have he : inter y x ≠ [] ∧ diff y (inter y x) ≠ [] := by simpa using he
        exact ih _ (step y rest st h (by simpa using hy) he.1 he.2)

theorem splitAll_preserves {x : Block} {Q : HState → Prop}
    (step : ∀ st y, Q st → y ∈ st.parts → inter y x ≠ [] → diff y (inter y x) ≠ [] →
      Q (cut x st y)) (ys : List Block) (st : HState) (h : Q st) : Q (splitAll x ys st) :=
  splitAll_induct (Q := fun _ => Q) (fun _ _ _ h _ => h) (fun y _ st h => step st y h) ys st h

def foldBody (a : Auto) (froms g : Block) (st : HState) (i : Nat) : HState :=
  let x := preimage a froms g i
  if x.isEmpty then st else
  splitAll x (st.parts.filter fun y => !(inter y x).isEmpty) st

theorem foldBody_preserves {a : Auto} {froms g : Block} {i : Nat} {Q : HState → Prop}
    (step : ∀ st y, Q st → y ∈ st.parts → inter y (preimage a froms g i) ≠ [] →
      diff y (inter y (preimage a froms g i)) ≠ [] → Q (cut (preimage a froms g i) st y))
    (st : HState) (h : Q st) : Q (foldBody a froms g st i) := by
  unfold foldBody
  simp only
  split
  · exact h
  · exact splitAll_preserves step _ _ h

theorem foldl_induct {α β} {f : β → α → β} {Q : List α → β → Prop}
    (step : ∀ i rest b, Q (i :: rest) b → Q rest (f b i)) :
    ∀ (is : List α) (b : β), Q is b → Q [] (is.foldl f b)
  | [], _, h => h
  | i :: rest, b, h => foldl_induct step rest _ (step i rest b h)

def round (a : Auto) (froms : Block) (n : Nat) (st : HState) (k : Nat) (g : Block) : HState :=
  (List.range n).foldl (foldBody a froms g) { st with work := removeNth st.work k }

/-- The index into the work-list is taken modulo its length, so the `none` branch of `st.work[k]?`
is never taken. -/
theorem refineLoop_induct {σ : Schedule} {a : Auto} {froms : Block} {n : Nat}
    {motive : Nat → HState → Option HState → Prop}
    (stop : ∀ fuel st, st.work = [] → motive fuel st (some st))
    (out : ∀ st, st.work ≠ [] → motive 0 st none)
    (next : ∀ fuel st k g r, k < st.work.length → st.work[k]? = some g →
      motive fuel (round a froms n st k g) r → motive (fuel + 1) st r) :
    ∀ (fuel step : Nat) (st : HState), motive fuel st (refineLoop σ a froms n fuel step st) := by
  intro fuel
  induction fuel with
  | zero =>
    intro step st
    rw [refineLoop]
    split
    · rename_i he
      exact stop _ _ (by simpa using he)
    · rename_i he
      exact out _ (by simpa using he)
  | succ fuel ih =>
    intro step st
    rw [refineLoop]
    split
    · rename_i he
      exact stop _ _ (by simpa using he)
    · rename_i he
      have hpos : 0 < st.work.length := by
        cases hw : st.work with
        | nil => simp [hw] at he
        | cons _ _ => simp
      have hk : σ step st.work.length % st.work.length < st.work.length := Nat.mod_lt _ hpos
      simp only
      split
      · rename_i hnone
        rw [List.getElem?_eq_none_iff] at hnone
        omega
      · rename_i g hg
        exact next _ _ _ g _ hk hg (ih _ _)

theorem refineLoop_preserves {σ : Schedule} {a : Auto} {froms : Block} {n : Nat}
    {Q : HState → Prop}
    (next : ∀ st k g, Q st → st.work[k]? = some g → Q (round a froms n st k g))
    {fuel step : Nat} {st st' : HState} (h : Q st)
    (hr : refineLoop σ a froms n fuel step st = some st') : Q st' ∧ st'.work = [] := by
  refine refineLoop_induct (σ := σ)
    (motive := fun _ st r => Q st → ∀ st', r = some st' → Q st' ∧ st'.work = [])
    ?_ ?_ ?_ fuel step st h st' hr
  · intro _ st hw h st' e
    cases e
    exact ⟨h, hw⟩
  · intro _ _ _ st' e
    cases e
  · intro _ st k g r _ hg ih h
    exact ih (next st k g h hg)

/-! ### The invariant of the refinement: a cut still to be made is on the work-list -/

def StableInv (a : Auto) (froms : Block) (n : Nat) (E : Nat → Nat → Nat → Prop) (st : HState) : Prop :=
  PInv a st.parts ∧ WInv a froms n st.parts st.work E

def Uncut (x B : Block) : Prop := ∀ p ∈ B, ∀ q ∈ B, (p ∈ x ↔ q ∈ x)

theorem uncut_of_sub {x B : Block} (h : ∀ r ∈ B, r ∈ x) : Uncut x B :=
  fun p hp q hq => ⟨fun _ => h q hq, fun _ => h p hp⟩

theorem uncut_of_disjoint {x B : Block} (h : ∀ r ∈ B, r ∉ x) : Uncut x B :=
  fun p hp q hq => ⟨fun hx => absurd hx (h p hp), fun hx => absurd hx (h q hq)⟩

theorem uncut_of_inter_nil {x B : Block} (h : inter B x = []) : Uncut x B :=
  uncut_of_disjoint fun r hr hx => by
    have : r ∈ inter B x := mem_inter.2 ⟨hr, hx⟩
    rw [h] at this
    exact absurd this List.not_mem_nil

theorem uncut_of_diff_nil {x B : Block} (h : diff B (inter B x) = []) : Uncut x B :=
  uncut_of_sub fun r hr => Classical.byContradiction fun hx => by
    have : r ∈ diff B (inter B x) := mem_diff_inter.2 ⟨hr, hx⟩
    rw [h] at this
    exact absurd this List.not_mem_nil

theorem splitAll_uncut (x : Block) (ys : List Block) (st : HState)
    (h : ∀ B ∈ st.parts, Uncut x B ∨ B ∈ ys) : ∀ B ∈ (splitAll x ys st).parts, Uncut x B := by
  have := splitAll_induct (x := x) (Q := fun ys st => ∀ B ∈ st.parts, Uncut x B ∨ B ∈ ys)
    ?_ ?_ ys st h
  · intro B hB
    exact (this B hB).resolve_right List.not_mem_nil
  · intro y rest st h hy B hB
    rcases h B hB with hu | hm
    · exact .inl hu
    · rcases List.mem_cons.1 hm with rfl | hm
      · rcases hy with hy | he | he
        · exact absurd hB hy
        · exact .inl (uncut_of_inter_nil he)
        · exact .inl (uncut_of_diff_nil he)
      · exact .inr hm
  · intro y rest st h _ _ _ B hB
    rcases mem_splitParts.1 hB with ⟨hBP, hne⟩ | rfl | rfl
    · rcases h B hBP with hu | hm
      · exact .inl hu
      · exact .inr ((List.mem_cons.1 hm).resolve_left hne)
    · exact .inl (uncut_of_sub fun r hr => (mem_inter.1 hr).2)
    · exact .inl (uncut_of_disjoint fun r hr => (mem_diff_inter.1 hr).2)

def Epend (a : Auto) (froms g : Block) (is : List Nat) : Nat → Nat → Nat → Prop :=
  fun i p q => i ∈ is ∧ Sep a froms g i p q

theorem foldBody_inv {a : Auto} {froms g : Block} {n : Nat}
    (hfr : ∀ p i, stepC a p i ≠ 0 → p ∈ froms) (i : Nat) (rest : List Nat) (st : HState)
    (h : StableInv a froms n (Epend a froms g (i :: rest)) st) :
    StableInv a froms n (Epend a froms g rest) (foldBody a froms g st i) := by
  have h1 : StableInv a froms n (Epend a froms g (i :: rest)) (foldBody a froms g st i) :=
    foldBody_preserves (fun _ y h hy _ _ => ⟨split_PInv (isCut_inter y _) h.1 hy,
      split_WInv (isCut_inter y _) hfr h.1 hy h.2⟩) st h
  have h2 : ∀ B ∈ (foldBody a froms g st i).parts, Uncut (preimage a froms g i) B := by
    unfold foldBody
    simp only
    split
    · rename_i he
      intro B _
      exact uncut_of_disjoint fun r _ hx => by
        rw [List.isEmpty_iff.1 he] at hx
        exact absurd hx List.not_mem_nil
    · apply splitAll_uncut
      intro B hB
      by_cases hc : (inter B (preimage a froms g i)).isEmpty = true
      · exact .inl (uncut_of_inter_nil (List.isEmpty_iff.1 hc))
      · exact .inr (List.mem_filter.2 ⟨hB, by simpa using hc⟩)
  refine ⟨h1.1, ?_⟩
  intro B hB p hp q hq j hj
  rcases h1.2 B hB p hp q hq j hj with hs | hx | ⟨hm, hsep⟩
  · exact .inl hs
  · exact .inr (.inl hx)
  · rcases List.mem_cons.1 hm with rfl | hm
    · exact absurd (h2 B hB p hp q hq) hsep
    · exact .inr (.inr ⟨hm, hsep⟩)

def ENone : Nat → Nat → Nat → Prop := fun _ _ _ => False

theorem round_inv {a : Auto} {froms : Block} {n : Nat}
    (hfr : ∀ p i, stepC a p i ≠ 0 → p ∈ froms) {st : HState} {k : Nat} {g : Block}
    (h : StableInv a froms n ENone st) (hg : st.work[k]? = some g) :
    StableInv a froms n ENone (round a froms n st k g) := by
  have := foldl_induct (Q := fun is st => StableInv a froms n (Epend a froms g is) st)
    (foldBody_inv hfr) (List.range n) { st with work := removeNth st.work k } ?_
  · refine ⟨this.1, ?_⟩
    intro B hB p hp q hq j hj
    rcases this.2 B hB p hp q hq j hj with hs | hx | ⟨hm, _⟩
    · exact .inl hs
    · exact .inr (.inl hx)
    · exact absurd hm List.not_mem_nil
  · refine ⟨h.1, ?_⟩
    intro B hB p hp q hq j hj
    rcases h.2 B hB p hp q hq j hj with hs | ⟨X, hX, hsep⟩ | hf
    · exact .inl hs
    · rcases mem_removeNth (k := k) hX with hm | hm
      · exact .inr (.inl ⟨X, hm, hsep⟩)
      · rw [hg] at hm
        cases hm
        exact .inr (.inr ⟨List.mem_range.2 hj, hsep⟩)
    · exact hf.elim

theorem stepC_zero (a : Auto) (i : Nat) : stepC a 0 i = 0 := by simp [stepC]

theorem stepC_of_step_none {a : Auto} {q i : Nat} (h : a.step q i = none) : stepC a q i = 0 := by
  unfold stepC; split <;> simp [h]

theorem stepC_ne_zero {a : Auto} {p i : Nat} (h : stepC a p i ≠ 0) :
    p ≠ 0 ∧ a.step p i = some (stepC a p i) := by
  unfold stepC at h ⊢
  by_cases hp : p = 0
  · simp [hp] at h
  · have hp' : (p == 0) = false := by simpa using hp
    simp only [hp', Bool.false_eq_true, if_false] at h ⊢
    cases hs : a.step p i with
    | none => simp [hs] at h
    | some q' => exact ⟨hp, by simp⟩

theorem stepC_froms {a : Auto} {p i : Nat} (h : stepC a p i ≠ 0) :
    p ∈ normSet (a.trans.map (·.1)) := by
  obtain ⟨t, ht, h1, _, _⟩ := step_eq_some (stepC_ne_zero h).2
  exact mem_normSet.2 (List.mem_map.2 ⟨t, ht, h1⟩)

theorem mem_allStates {a : Auto} {q : Nat} : q ∈ allStates a ↔ q = 0 ∨ q ∈ a.states := by
  simp [allStates, mem_normSet]

theorem stepC_mem_all (a : Auto) (p i : Nat) : stepC a p i ∈ allStates a := by
  by_cases h : stepC a p i = 0
  · exact mem_allStates.2 (.inl h)
  · obtain ⟨t, ht, _, _, h3⟩ := step_eq_some (stepC_ne_zero h).2
    exact mem_allStates.2 (.inr (mem_states.2 (.inr ⟨t, ht, .inr h3.symm⟩)))

def runC (a : Auto) : Nat → List Nat → Nat
  | q, [] => q
  | q, i :: w => runC a (stepC a q i) w

def accC (a : Auto) (q : Nat) (w : List Nat) : Bool := a.acc.contains (runC a q w)

theorem accC_nil (a : Auto) (q : Nat) : accC a q [] = a.acc.contains q := rfl
theorem accC_cons (a : Auto) (q i : Nat) (w : List Nat) :
    accC a q (i :: w) = accC a (stepC a q i) w := rfl

theorem runC_dead (a : Auto) : ∀ w, runC a 0 w = 0
  | [] => rfl
  | i :: w => by rw [runC, stepC_zero]; exact runC_dead a w

theorem accC_dead {a : Auto} (h0 : 0 ∉ a.acc) (w : List Nat) : accC a 0 w = false := by
  unfold accC
  rw [runC_dead]
  simpa using h0

section WFfacts
variable {a : Auto} (hwf : WF a)
include hwf

theorem WF.stepC_of_step {q i q' : Nat} (h : a.step q i = some q') : stepC a q i = q' := by
  obtain ⟨t, ht, h1, _, _⟩ := step_eq_some h
  have : q ≠ 0 := h1 ▸ hwf.src_ne_zero t ht
  have : (q == 0) = false := by simpa using this
  simp [stepC, this, h]

theorem WF.accFrom_eq_accC : ∀ (w : List Nat) (q : Nat), accFrom a q w = accC a q w
  | [], q => rfl
  | i :: w, q => by
    rw [accFrom_cons, accC_cons]
    cases hs : a.step q i with
    | none =>
      simp only
      rw [stepC_of_step_none hs, accC_dead hwf.zero_not_acc]
    | some q' =>
      simp only
      rw [hwf.stepC_of_step hs]
      exact WF.accFrom_eq_accC w q'

theorem WF.stepC_big {p i : Nat} (hi : a.inputs.length ≤ i) : stepC a p i = 0 := by
  apply Classical.byContradiction
  intro h
  obtain ⟨t, ht, _, h2, _⟩ := step_eq_some (stepC_ne_zero h).2
  have := hwf.2.2.1 t ht
  omega

end WFfacts

def cls (a : Auto) (x : Nat) : Nat := if x = 0 then 0 else if x ∈ a.acc then 1 else 2

theorem cls_le (a : Auto) (x : Nat) : cls a x ≤ 2 := by
  unfold cls
  split
  · omega
  · split <;> omega

theorem cls_eq_zero {a : Auto} {x : Nat} : cls a x = 0 ↔ x = 0 := by
  by_cases h0 : x = 0 <;> by_cases h1 : x ∈ a.acc <;> simp [cls, h0, h1]

theorem cls_eq_one {a : Auto} {x : Nat} : cls a x = 1 ↔ x ≠ 0 ∧ x ∈ a.acc := by
  by_cases h0 : x = 0 <;> by_cases h1 : x ∈ a.acc <;> simp [cls, h0, h1]

theorem cls_eq_two {a : Auto} {x : Nat} : cls a x = 2 ↔ x ≠ 0 ∧ x ∉ a.acc := by
  by_cases h0 : x = 0 <;> by_cases h1 : x ∈ a.acc <;> simp [cls, h0, h1]

def initBlock (a : Auto) : Nat → Block
  | 0 => [0]
  | 1 => normSet a.acc
  | _ => diff (diff (allStates a) (normSet a.acc)) [0]

def initParts (a : Auto) : List Block :=
  ([[0], normSet a.acc, diff (diff (allStates a) (normSet a.acc)) [0]] : List Block).filter (!·.isEmpty)

theorem mem_initParts {a : Auto} {B : Block} :
    B ∈ initParts a ↔ B ≠ [] ∧ ∃ k ≤ 2, B = initBlock a k := by
  simp only [initParts, List.mem_filter, List.mem_cons, List.not_mem_nil, or_false,
    Bool.not_eq_eq_eq_not, Bool.not_true, List.isEmpty_eq_false_iff]
  constructor
  · rintro ⟨h | h | h, hne⟩
    · exact ⟨hne, 0, by omega, h⟩
    · exact ⟨hne, 1, by omega, h⟩
    · exact ⟨hne, 2, by omega, h⟩
  · rintro ⟨hne, k, hk, h⟩
    refine ⟨?_, hne⟩
    match k, hk with
    | 0, _ => exact .inl h
    | 1, _ => exact .inr (.inl h)
    | 2, _ => exact .inr (.inr h)

theorem mem_initBlock {a : Auto} (hwf : WF a) {k x : Nat} (hk : k ≤ 2) :
    x ∈ initBlock a k ↔ x ∈ allStates a ∧ cls a x = k := by
  match k, hk with
  | 0, _ =>
    rw [cls_eq_zero]
    show x ∈ [0] ↔ _
    rw [List.mem_singleton]
    exact ⟨fun h => ⟨mem_allStates.2 (.inl h), h⟩, And.right⟩
  | 1, _ =>
    rw [cls_eq_one]
    show x ∈ normSet a.acc ↔ _
    rw [mem_normSet]
    exact ⟨fun h => ⟨mem_allStates.2 (.inr (hwf.acc_states x h)),
      fun e => hwf.zero_not_acc (e ▸ h), h⟩, fun h => h.2.2⟩
  | 2, _ =>
    rw [cls_eq_two]
    show x ∈ diff (diff (allStates a) (normSet a.acc)) [0] ↔ _
    rw [mem_diff, mem_diff, mem_normSet, List.mem_singleton]
    exact ⟨fun h => ⟨h.1.1, h.2, h.1.2⟩, fun h => ⟨⟨h.1, h.2.2⟩, h.2.1⟩⟩

theorem initParts_eq_iff {a : Auto} (hwf : WF a) {B C : Block} (hB : B ∈ initParts a)
    (hC : C ∈ initParts a) {p q : Nat} (hp : p ∈ B) (hq : q ∈ C) :
    B = C ↔ cls a p = cls a q := by
  obtain ⟨_, j, hj, rfl⟩ := mem_initParts.1 hB
  obtain ⟨_, k, hk, rfl⟩ := mem_initParts.1 hC
  have hp' := ((mem_initBlock hwf hj).1 hp).2
  have hq' := ((mem_initBlock hwf hk).1 hq).2
  constructor
  · intro e
    rw [← e] at hq
    exact hp'.trans ((mem_initBlock hwf hj).1 hq).2.symm
  · intro e
    rw [hp'.symm.trans (e.trans hq')]

theorem initParts_sub {a : Auto} (hwf : WF a) {B : Block} (hB : B ∈ initParts a) {x : Nat}
    (hx : x ∈ B) : x ∈ allStates a := by
  obtain ⟨_, k, hk, rfl⟩ := mem_initParts.1 hB
  exact ((mem_initBlock hwf hk).1 hx).1

theorem initParts_PInv {a : Auto} (hwf : WF a) : PInv a (initParts a) := by
  have same : ∀ B ∈ initParts a, ∀ p ∈ B, ∀ q ∈ B, cls a p = cls a q :=
    fun B hB p hp q hq => (initParts_eq_iff hwf hB hB hp hq).1 rfl
  refine ⟨?_, ?_, ?_, ?_⟩
  · intro x hx
    have hm := (mem_initBlock hwf (cls_le a x)).2 ⟨hx, rfl⟩
    exact ⟨_, mem_initParts.2 ⟨List.ne_nil_of_mem hm, _, cls_le a x, rfl⟩, hm⟩
  · intro B hB C hC x hxB hxC
    exact (initParts_eq_iff hwf hB hC hxB hxC).2 rfl
  · intro B hB p hp q hq
    have hacc : ∀ x, x ∈ a.acc ↔ cls a x = 1 := fun x =>
      ⟨fun h => cls_eq_one.2 ⟨fun e => hwf.zero_not_acc (e ▸ h), h⟩, fun h => (cls_eq_one.1 h).2⟩
    rw [hacc, hacc, same B hB p hp q hq]
  · intro B hB h0 x hx
    exact cls_eq_zero.1 ((same B hB x hx 0 h0).trans (cls_eq_zero.2 rfl))

theorem initParts_WInv {a : Auto} {n : Nat} (h : PInv a (initParts a)) :
    WInv a (normSet (a.trans.map (·.1))) n (initParts a) (initParts a) ENone := by
  intro B _ p _ q _ i _
  have side : ∀ p q, stepC a p i ≠ 0 →
      SameBlock (initParts a) (stepC a p i) (stepC a q i) ∨
        ∃ X ∈ initParts a, Sep a (normSet (a.trans.map (·.1))) X i p q := by
    intro p q hne
    obtain ⟨X, hX, hpX⟩ := h.cover _ (stepC_mem_all a p i)
    by_cases hqX : stepC a q i ∈ X
    · exact .inl ⟨X, hX, hpX, hqX⟩
    · refine .inr ⟨X, hX, fun hiff => hqX ?_⟩
      exact (mem_preimage.1 (hiff.1 (mem_preimage.2 ⟨stepC_froms hne, hpX⟩))).2
  by_cases hp0 : stepC a p i = 0
  · by_cases hq0 : stepC a q i = 0
    · obtain ⟨X, hX, hpX⟩ := h.cover _ (stepC_mem_all a p i)
      exact .inl ⟨X, hX, hpX, by rw [hq0, ← hp0]; exact hpX⟩
    · rcases side q p hq0 with ⟨X, hX, h1, h2⟩ | ⟨X, hX, hsep⟩
      · exact .inl ⟨X, hX, h2, h1⟩
      · exact .inr (.inl ⟨X, hX, hsep.symm⟩)
  · rcases side p q hp0 with hs | hx
    · exact .inl hs
    · exact .inr (.inl hx)

def Stable (a : Auto) (P : List Block) : Prop :=
  ∀ B ∈ P, ∀ p ∈ B, ∀ q ∈ B, ∀ i, SameBlock P (stepC a p i) (stepC a q i)

/-- the partition computed by `partition` is a stable, acceptance-homogeneous partition of the
completed automaton (for every schedule) -/
theorem partition_stable (σ : Schedule) (a : Auto) (P : List Block) (hwf : WF a)
    (h : partition σ a = some P) : PInv a P ∧ Stable a P := by
  unfold partition at h
  simp only [Option.map_eq_some_iff] at h
  obtain ⟨st', hr, rfl⟩ := h
  have hP := initParts_PInv hwf
  have hI : StableInv a (normSet (a.trans.map (·.1))) a.inputs.length ENone
      { parts := initParts a, work := initParts a } := ⟨hP, initParts_WInv hP⟩
  obtain ⟨hinv, hw⟩ :=
    refineLoop_preserves (fun _ _ _ h hg => round_inv (fun p i => stepC_froms) h hg) hI hr
  refine ⟨hinv.1, ?_⟩
  intro B hB p hp q hq i
  by_cases hi : i < a.inputs.length
  · rcases hinv.2 B hB p hp q hq i hi with hs | ⟨X, hX, _⟩ | hf
    · exact hs
    · rw [hw] at hX
      exact absurd hX List.not_mem_nil
    · exact hf.elim
  · -- no transition carries an input index `≥ a.inputs.length`: both successors are the dead state
    have hi : a.inputs.length ≤ i := by omega
    rw [hwf.stepC_big hi, hwf.stepC_big hi]
    obtain ⟨X, hX, h0⟩ := hinv.1.cover 0 (mem_allStates.2 (.inl rfl))
    exact ⟨X, hX, h0, h0⟩

theorem sameBlock_accC {a : Auto} {P : List Block} (hP : PInv a P) (hS : Stable a P) :
    ∀ (w : List Nat) (p q : Nat), SameBlock P p q → accC a p w = accC a q w
  | [], p, q, ⟨B, hB, hp, hq⟩ => by
    rw [accC_nil, accC_nil, Bool.eq_iff_iff]
    simpa using hP.hom B hB p hp q hq
  | i :: w, p, q, ⟨B, hB, hp, hq⟩ => by
    rw [accC_cons, accC_cons]
    exact sameBlock_accC hP hS w _ _ (hS B hB p hp q hq i)

theorem repOf_spec {a : Auto} {P : List Block} (hP : PInv a P) {B : Block} (hB : B ∈ P) {q : Nat}
    (hq : q ∈ B) : ∃ rest, B = repOf P q :: rest := by
  unfold repOf
  cases hf : P.find? (·.contains q) with
  | none =>
    rw [List.find?_eq_none] at hf
    exact absurd (by simpa using hq) (hf B hB)
  | some B' =>
    have h1 : B' ∈ P := List.mem_of_find?_eq_some hf
    have h2 : q ∈ B' := by simpa using List.find?_some hf
    have : B' = B := hP.disj B' h1 B hB q h2 hq
    subst this
    cases B' with
    | nil => simp at hq
    | cons r rest => exact ⟨rest, rfl⟩

section Quot
variable {a : Auto} {P : List Block} (hP : PInv a P)
include hP

theorem rep_mem {B : Block} (hB : B ∈ P) {q : Nat} (hq : q ∈ B) : repOf P q ∈ B := by
  obtain ⟨rest, h⟩ := repOf_spec hP hB hq
  rw [h]; simp

theorem rep_eq {p q : Nat} (h : SameBlock P p q) : repOf P p = repOf P q := by
  obtain ⟨B, hB, hp, hq⟩ := h
  obtain ⟨r1, h1⟩ := repOf_spec hP hB hp
  obtain ⟨r2, h2⟩ := repOf_spec hP hB hq
  have := h1.symm.trans h2
  exact (List.cons.inj this).1

theorem rep_same {q : Nat} (hq : q ∈ allStates a) : SameBlock P q (repOf P q) := by
  obtain ⟨B, hB, hqB⟩ := hP.cover q hq
  exact ⟨B, hB, hqB, rep_mem hP hB hqB⟩

theorem rep_idem {q : Nat} (hq : q ∈ allStates a) : repOf P (repOf P q) = repOf P q :=
  (rep_eq hP (rep_same hP hq)).symm

end Quot

/-! The quotient in the stages of `minimize`: `Raw` before the clean-up, `Pass1` after
`keep_only_states_with_input_transitions`, `Pass2` after
`eliminate_nonaccepting_states_without_output_transitions`. -/

def qStart (P : List Block) (a : Auto) : Nat := repOf P a.start
def qAccRaw (P : List Block) (a : Auto) : List Nat := normSet (a.acc.map (repOf P))
def qTransRaw (P : List Block) (a : Auto) : List (Nat × Nat × Nat) :=
  a.trans.map fun t => (t.1, t.2.1, repOf P t.2.2)
def qTargets (P : List Block) (a : Auto) : List Nat := normSet ((qTransRaw P a).map (·.2.2))
def qAccPass1 (P : List Block) (a : Auto) : List Nat :=
  (qAccRaw P a).filter fun q => q == qStart P a || (qTargets P a).contains q
def qTransPass1 (P : List Block) (a : Auto) : List (Nat × Nat × Nat) :=
  (qTransRaw P a).filter fun t =>
    t.1 == qStart P a || ((qTargets P a).contains t.1 && (qTargets P a).contains t.2.2)
def qSources (P : List Block) (a : Auto) : List Nat := normSet ((qTransPass1 P a).map (·.1))
def qTransPass2 (P : List Block) (a : Auto) : List (Nat × Nat × Nat) :=
  (qTransPass1 P a).filter fun t => (qAccPass1 P a).contains t.2.2 || (qSources P a).contains t.2.2

def quot (P : List Block) (a : Auto) : Auto :=
  { start := qStart P a, trans := qTransPass2 P a, acc := qAccPass1 P a, inputs := a.inputs }

def renum (b : Auto) : Auto :=
  let r := renumber b.start b.trans b.acc
  { start := r.1, trans := r.2.1, acc := r.2.2, inputs := b.inputs }

theorem minimize_eq (σ : Schedule) (a : Auto) :
    minimize σ a = (partition σ a).map fun P => renum (quot P a) := by
  unfold minimize
  cases partition σ a <;> rfl

def QState (P : List Block) (a : Auto) (r : Nat) : Prop := r = qStart P a ∨ r ∈ qTargets P a

theorem mem_qTransRaw {P : List Block} {a : Auto} {t : Nat × Nat × Nat} :
    t ∈ qTransRaw P a ↔ ∃ s ∈ a.trans, t = (s.1, s.2.1, repOf P s.2.2) := by
  simp only [qTransRaw, List.mem_map]
  constructor
  · rintro ⟨s, hs, rfl⟩; exact ⟨s, hs, rfl⟩
  · rintro ⟨s, hs, rfl⟩; exact ⟨s, hs, rfl⟩

theorem mem_qTargets {P : List Block} {a : Auto} {r : Nat} :
    r ∈ qTargets P a ↔ ∃ s ∈ a.trans, r = repOf P s.2.2 := by
  simp only [qTargets, mem_normSet, List.mem_map, mem_qTransRaw]
  constructor
  · rintro ⟨t, ⟨s, hs, rfl⟩, rfl⟩; exact ⟨s, hs, rfl⟩
  · rintro ⟨s, hs, rfl⟩; exact ⟨_, ⟨s, hs, rfl⟩, rfl⟩

theorem mem_qTransPass1 {P : List Block} {a : Auto} {t : Nat × Nat × Nat} :
    t ∈ qTransPass1 P a ↔ t ∈ qTransRaw P a ∧ QState P a t.1 := by
  simp only [qTransPass1, List.mem_filter, QState, Bool.or_eq_true, beq_iff_eq, Bool.and_eq_true,
    List.contains_iff_mem]
  refine and_congr_right fun h1 => or_congr_right ⟨And.left, fun h => ⟨h, ?_⟩⟩
  obtain ⟨s, hs, rfl⟩ := mem_qTransRaw.1 h1
  exact mem_qTargets.2 ⟨s, hs, rfl⟩

theorem mem_qAccPass1 {P : List Block} {a : Auto} {r : Nat} :
    r ∈ qAccPass1 P a ↔ r ∈ qAccRaw P a ∧ QState P a r := by
  simp only [qAccPass1, List.mem_filter, QState, Bool.or_eq_true, beq_iff_eq, List.contains_iff_mem]

theorem mem_qAccRaw {P : List Block} {a : Auto} {r : Nat} :
    r ∈ qAccRaw P a ↔ ∃ q ∈ a.acc, repOf P q = r := by
  simp only [qAccRaw, mem_normSet, List.mem_map]

theorem mem_qSources {P : List Block} {a : Auto} {r : Nat} :
    r ∈ qSources P a ↔ ∃ t ∈ qTransPass1 P a, t.1 = r := by
  simp only [qSources, mem_normSet, List.mem_map]

theorem mem_qTransPass2 {P : List Block} {a : Auto} {t : Nat × Nat × Nat} :
    t ∈ qTransPass2 P a ↔ t ∈ qTransPass1 P a ∧ (t.2.2 ∈ qAccPass1 P a ∨ t.2.2 ∈ qSources P a) := by
  simp only [qTransPass2, List.mem_filter, Bool.or_eq_true, List.contains_iff_mem]

section QuotSim
variable {a : Auto} {P : List Block} (hwf : WF a) (hP : PInv a P) (hS : Stable a P)
include hwf hP

omit hwf hP in
theorem tgt_mem_all {t : Nat × Nat × Nat} (ht : t ∈ a.trans) : t.2.2 ∈ allStates a :=
  mem_allStates.2 (.inr (mem_states.2 (.inr ⟨t, ht, .inr rfl⟩)))

omit hwf hP in
theorem QState_rep {r : Nat} (h : QState P a r) : ∃ q ∈ a.states, r = repOf P q := by
  rcases h with h | h
  · exact ⟨a.start, mem_states.2 (.inl rfl), h⟩
  · obtain ⟨s, hs, h⟩ := mem_qTargets.1 h
    exact ⟨s.2.2, mem_states.2 (.inr ⟨s, hs, .inr rfl⟩), h⟩

omit hwf hP in
theorem quot_states_QState {r : Nat} (h : r ∈ (quot P a).states) : QState P a r := by
  rcases mem_states.1 h with h | ⟨t, ht, h | h⟩
  · exact .inl h
  · have ht : t ∈ qTransPass2 P a := ht
    rw [h]; exact (mem_qTransPass1.1 (mem_qTransPass2.1 ht).1).2
  · have ht : t ∈ qTransPass2 P a := ht
    obtain ⟨s, hs, rfl⟩ := mem_qTransRaw.1 (mem_qTransPass1.1 (mem_qTransPass2.1 ht).1).1
    rw [h]; exact .inr (mem_qTargets.2 ⟨s, hs, rfl⟩)

theorem QState_acc {r : Nat} (h : QState P a r) : r ∈ qAccRaw P a ↔ r ∈ a.acc := by
  obtain ⟨q0, hq0, hr⟩ := QState_rep h
  constructor
  · intro hm
    obtain ⟨q, hq, rfl⟩ := mem_qAccRaw.1 hm
    have hqa : q ∈ allStates a := mem_allStates.2 (.inr (hwf.acc_states q hq))
    obtain ⟨B, hB, h1, h2⟩ := rep_same hP hqa
    exact (hP.hom B hB _ h1 _ h2).1 hq
  · intro hm
    refine mem_qAccRaw.2 ⟨r, hm, ?_⟩
    rw [hr]; exact rep_idem hP (mem_allStates.2 (.inr hq0))

omit hwf hP in
theorem qSources_of_step {r i p : Nat} (hr : QState P a r) (hs : a.step r i = some p) :
    r ∈ qSources P a := by
  obtain ⟨s, hsm, e1, _, _⟩ := step_eq_some hs
  exact mem_qSources.2 ⟨_, mem_qTransPass1.2 ⟨mem_qTransRaw.2 ⟨s, hsm, rfl⟩, e1 ▸ hr⟩, e1⟩

omit hP in
theorem quot_step {r i q' : Nat} (hr : QState P a r) (hs : a.step r i = some q') :
    (quot P a).step r i =
      if repOf P q' ∈ qAccPass1 P a ∨ repOf P q' ∈ qSources P a then some (repOf P q') else none := by
  obtain ⟨s0, hs0, h1, h2, h3⟩ := step_eq_some hs
  have htgt : ∀ t ∈ qTransPass2 P a, t.1 = r → t.2.1 = i → t.2.2 = repOf P q' := by
    intro t ht e1 e2
    obtain ⟨s, hsm, rfl⟩ := mem_qTransRaw.1 (mem_qTransPass1.1 (mem_qTransPass2.1 ht).1).1
    simp only at e1 e2 ⊢
    rw [← h3, hwf.2.1 s hsm s0 hs0 (e1.trans h1.symm) (e2.trans h2.symm)]
  split
  · rename_i keep
    have ht0 : (r, i, repOf P q') ∈ qTransPass1 P a :=
      mem_qTransPass1.2 ⟨mem_qTransRaw.2 ⟨s0, hs0, by rw [h1, h2, h3]⟩, hr⟩
    exact step_some_of (b := quot P a) ⟨_, mem_qTransPass2.2 ⟨ht0, keep⟩, rfl, rfl⟩ htgt
  · rename_i drop
    apply step_none_of (b := quot P a)
    rintro t ht ⟨e1, e2⟩
    have := (mem_qTransPass2.1 ht).2
    rw [htgt t ht e1 e2] at this
    exact drop this

omit hwf hP in
theorem quot_step_none {r i : Nat} (hs : a.step r i = none) : (quot P a).step r i = none := by
  apply step_none_of
  rintro t ht ⟨e1, e2⟩
  obtain ⟨s, hsm, rfl⟩ := mem_qTransRaw.1 (mem_qTransPass1.1 (mem_qTransPass2.1 ht).1).1
  exact step_eq_none hs s hsm ⟨e1, e2⟩

include hS

omit hwf in
theorem accC_rep {q : Nat} (hq : q ∈ allStates a) (w : List Nat) :
    accC a (repOf P q) w = accC a q w :=
  (sameBlock_accC hP hS w _ _ (rep_same hP hq)).symm

theorem rep_step {p i p' : Nat} (hpa : p ∈ allStates a) (hs : a.step p i = some p') :
    ∃ p'', a.step (repOf P p) i = some p'' ∧ repOf P p'' = repOf P p' := by
  obtain ⟨s0, hs0, _, _, h3⟩ := step_eq_some hs
  obtain ⟨B, hB, h1, h2⟩ := rep_same hP hpa
  obtain ⟨C, hC, c1, c2⟩ := hS B hB _ h1 _ h2 i
  rw [hwf.stepC_of_step hs] at c1
  have hp'0 : p' ≠ 0 := h3 ▸ hwf.tgt_ne_zero s0 hs0
  have hne : stepC a (repOf P p) i ≠ 0 := by
    intro e
    rw [e] at c2
    exact hp'0 (hP.zero C hC c2 p' c1)
  exact ⟨_, (stepC_ne_zero hne).2, (rep_eq hP ⟨C, hC, c1, c2⟩).symm⟩

theorem rep_source_of_step {p i p' : Nat} (hpa : p ∈ allStates a) (hQ : QState P a (repOf P p))
    (hs : a.step p i = some p') : repOf P p ∈ qSources P a := by
  obtain ⟨_, hs', _⟩ := rep_step hwf hP hS hpa hs
  exact qSources_of_step hQ hs'

theorem dropped_dead {t : Nat × Nat × Nat} (ht : t ∈ a.trans)
    (drop : ¬ (repOf P t.2.2 ∈ qAccPass1 P a ∨ repOf P t.2.2 ∈ qSources P a)) (w : List Nat) :
    accC a t.2.2 w = false := by
  have hR : QState P a (repOf P t.2.2) := .inr (mem_qTargets.2 ⟨t, ht, rfl⟩)
  have hna : repOf P t.2.2 ∉ a.acc :=
    fun hm => drop (.inl (mem_qAccPass1.2 ⟨(QState_acc hwf hP hR).2 hm, hR⟩))
  have hdead : ∀ j, stepC a (repOf P t.2.2) j = 0 := fun j =>
    Classical.byContradiction fun hne => drop (.inr (qSources_of_step hR (stepC_ne_zero hne).2))
  rw [← accC_rep hP hS (tgt_mem_all ht)]
  cases w with
  | nil => rw [accC_nil]; simpa using hna
  | cons j w => rw [accC_cons, hdead, accC_dead hwf.zero_not_acc]

theorem quot_accFrom : ∀ (w : List Nat) (r : Nat), QState P a r →
    accFrom (quot P a) r w = accC a r w
  | [], r, hr => by
    rw [accFrom_nil, accC_nil, Bool.eq_iff_iff]
    simp only [List.contains_iff_mem]
    show r ∈ qAccPass1 P a ↔ _
    rw [mem_qAccPass1, QState_acc hwf hP hr]
    exact ⟨fun h => h.1, fun h => ⟨h, hr⟩⟩
  | i :: w, r, hr => by
    rw [accFrom_cons, accC_cons]
    cases hs : a.step r i with
    | none =>
      rw [quot_step_none hs, stepC_of_step_none hs, accC_dead hwf.zero_not_acc]
    | some q' =>
      rw [hwf.stepC_of_step hs, quot_step hwf hr hs]
      obtain ⟨s0, hs0, _, _, rfl⟩ := step_eq_some hs
      by_cases keep : repOf P s0.2.2 ∈ qAccPass1 P a ∨ repOf P s0.2.2 ∈ qSources P a
      · rw [if_pos keep]
        simp only
        rw [quot_accFrom w _ (.inr (mem_qTargets.2 ⟨s0, hs0, rfl⟩))]
        exact accC_rep hP hS (tgt_mem_all hs0) w
      · rw [if_neg keep, dropped_dead hwf hP hS hs0 keep]

theorem quot_reach : ∀ (w : List Nat) (p q : Nat), a.run p w = some q → p ∈ allStates a →
    QState P a (repOf P p) → (∃ u, (quot P a).run (qStart P a) u = some (repOf P p)) →
    (repOf P q ∈ qAccPass1 P a ∨ repOf P q ∈ qSources P a) →
    ∃ u, (quot P a).run (qStart P a) u = some (repOf P q)
  | [], p, q, h, _, _, hu, _ => by
    simp only [Auto.run, Option.some.injEq] at h
    subst h; exact hu
  | i :: w, p, q, h, hpa, hQ, hu, keep => by
    simp only [Auto.run] at h
    cases hs : a.step p i with
    | none => simp [hs] at h
    | some p' =>
      simp only [hs] at h
      obtain ⟨s0, hs0, _, _, h3⟩ := step_eq_some hs
      have hp'a : p' ∈ allStates a := h3 ▸ tgt_mem_all hs0
      have hQ' : QState P a (repOf P p') := .inr (mem_qTargets.2 ⟨s0, hs0, by rw [h3]⟩)
      have keep' : repOf P p' ∈ qAccPass1 P a ∨ repOf P p' ∈ qSources P a := by
        cases w with
        | nil =>
          simp only [Auto.run, Option.some.injEq] at h
          subst h; exact keep
        | cons j w' =>
          simp only [Auto.run] at h
          cases hs2 : a.step p' j with
          | none => simp [hs2] at h
          | some p2 =>
            exact .inr (rep_source_of_step hwf hP hS hp'a hQ' hs2)
      obtain ⟨p'', hs', e⟩ := rep_step hwf hP hS hpa hs
      have hst : (quot P a).step (repOf P p) i = some (repOf P p') := by
        rw [quot_step hwf hQ hs', e, if_pos keep']
      obtain ⟨u, hu⟩ := hu
      refine quot_reach w p' q h hp'a hQ' ⟨u ++ [i], ?_⟩ keep
      rw [run_append, hu]
      simp only [Option.bind_some, Auto.run, hst]

theorem quot_acc_states : ∀ r ∈ (quot P a).acc, r ∈ (quot P a).states := by
  intro r hr
  have hr : r ∈ qAccPass1 P a := hr
  obtain ⟨q, hq, rfl⟩ := mem_qAccRaw.1 (mem_qAccPass1.1 hr).1
  obtain ⟨w, hw⟩ := hwf.2.2.2 q hq
  obtain ⟨u, hu⟩ := quot_reach hwf hP hS w a.start q hw
    (mem_allStates.2 (.inr (mem_states.2 (.inl rfl)))) (.inl rfl) ⟨[], rfl⟩ (.inl hr)
  exact run_mem_states (mem_states.2 (.inl rfl)) hu

end QuotSim

theorem find?_congr' {α} {p q : α → Bool} : ∀ {l : List α}, (∀ x ∈ l, p x = q x) →
    l.find? p = l.find? q
  | [], _ => rfl
  | x :: xs, h => by
    have hx := h x (by simp)
    have ih := find?_congr' (l := xs) (fun y hy => h y (List.mem_cons_of_mem _ hy))
    simp only [List.find?_cons, hx, ih]

theorem idxOf?_spec (l : List Nat) (x : Nat) (h : x ∈ l) :
    ∃ k, List.idxOf? x l = some k ∧ l[k]? = some x := by
  cases hk : List.idxOf? x l with
  | none => exact absurd h (List.idxOf?_eq_none_iff.1 hk)
  | some k =>
    obtain ⟨hlt, e, _⟩ := List.idxOf?_eq_some_iff.1 hk
    exact ⟨k, rfl, by rw [List.getElem?_eq_getElem hlt, e]⟩

theorem idx_inj (l : List Nat) {x y : Nat} (hx : x ∈ l) (hy : y ∈ l)
    (h : (List.idxOf? x l).getD 0 = (List.idxOf? y l).getD 0) : x = y := by
  obtain ⟨k1, h1, g1⟩ := idxOf?_spec l x hx
  obtain ⟨k2, h2, g2⟩ := idxOf?_spec l y hy
  rw [h1, h2] at h
  simp only [Option.getD_some] at h
  subst h
  rw [g1] at g2
  exact Option.some.inj g2

section Rename
variable {b b' : Auto} {f : Nat → Nat} {S : Nat → Prop}
  (hinj : ∀ x y, S x → S y → f x = f y → x = y)
  (hsrc : ∀ t ∈ b.trans, S t.1) (htgt : ∀ t ∈ b.trans, S t.2.2) (hacc : ∀ q ∈ b.acc, S q)
  (htr : b'.trans = b.trans.map fun t => (f t.1, t.2.1, f t.2.2))
  (hac : ∀ x, x ∈ b'.acc ↔ x ∈ b.acc.map f)
include hinj hsrc htr

theorem rename_step {q : Nat} (hq : S q) (i : Nat) : b'.step (f q) i = (b.step q i).map f := by
  unfold Auto.step
  rw [htr, List.find?_map, Option.map_map, Option.map_map]
  have : b.trans.find? ((fun t => t.1 == f q && t.2.1 == i) ∘ fun t => (f t.1, t.2.1, f t.2.2)) =
      b.trans.find? (fun t => t.1 == q && t.2.1 == i) := by
    apply find?_congr'
    intro t ht
    simp only [Function.comp]
    by_cases e : t.1 = q
    · simp [e]
    · have : f t.1 ≠ f q := fun h => e (hinj _ _ (hsrc t ht) hq h)
      have e1 : (t.1 == q) = false := beq_false_of_ne e
      have e2 : (f t.1 == f q) = false := beq_false_of_ne this
      rw [e1, e2]
  rw [this]
  rfl

include htgt

theorem rename_run : ∀ (w : List Nat) (q : Nat), S q → b'.run (f q) w = (b.run q w).map f
  | [], q, _ => rfl
  | i :: w, q, hq => by
    simp only [Auto.run]
    rw [rename_step hinj hsrc htr hq]
    cases hs : b.step q i with
    | none => rfl
    | some q' =>
      obtain ⟨t, ht, _, _, h3⟩ := step_eq_some hs
      simp only [Option.map_some]
      exact rename_run w q' (h3 ▸ htgt t ht)

include hacc hac

theorem rename_accFrom (w : List Nat) (q : Nat) (hq : S q) :
    accFrom b' (f q) w = accFrom b q w := by
  unfold accFrom
  rw [rename_run hinj hsrc htgt htr w q hq]
  cases hr : b.run q w with
  | none => rfl
  | some q' =>
    have hq' : S q' := by
      rcases run_mem w q q' hr with rfl | ⟨t, ht, rfl⟩
      · exact hq
      · exact htgt t ht
    show b'.acc.contains (f q') = b.acc.contains q'
    rw [Bool.eq_iff_iff]
    simp only [List.contains_iff_mem, hac, List.mem_map]
    constructor
    · rintro ⟨x, hx, e⟩
      rw [← hinj _ _ (hacc x hx) hq' e]; exact hx
    · intro h; exact ⟨q', h, rfl⟩

end Rename

def renumF (b : Auto) (q : Nat) : Nat := (List.idxOf? q b.states).getD 0

theorem renum_accFrom (b : Auto) (hacc : ∀ q ∈ b.acc, q ∈ b.states) (w : List Nat) {q : Nat}
    (hq : q ∈ b.states) : accFrom (renum b) (renumF b q) w = accFrom b q w :=
  rename_accFrom (b := b) (b' := renum b) (S := fun q => q ∈ b.states) (f := renumF b)
    (fun _ _ hx hy h => idx_inj _ hx hy h)
    (fun t ht => mem_states.2 (.inr ⟨t, ht, .inl rfl⟩))
    (fun t ht => mem_states.2 (.inr ⟨t, ht, .inr rfl⟩))
    hacc rfl (fun _ => mem_normSet) w q hq

theorem min_accFrom {a : Auto} {P : List Block} (hwf : WF a) (hP : PInv a P) (hS : Stable a P)
    {r : Nat} (hr : r ∈ (quot P a).states) (w : List Nat) :
    accFrom (renum (quot P a)) (renumF (quot P a) r) w = accC a r w := by
  rw [renum_accFrom _ (quot_acc_states hwf hP hS) w hr,
    quot_accFrom hwf hP hS w r (quot_states_QState hr)]

theorem minimize_some {σ : Schedule} {a m : Auto} (hwf : WF a) (h : minimize σ a = some m) :
    ∃ P, partition σ a = some P ∧ PInv a P ∧ Stable a P ∧ m = renum (quot P a) := by
  rw [minimize_eq, Option.map_eq_some_iff] at h
  obtain ⟨P, hpart, rfl⟩ := h
  obtain ⟨hP, hS⟩ := partition_stable σ a P hwf hpart
  exact ⟨P, hpart, hP, hS, rfl⟩

/-- **Minimisation preserves the language, for every schedule.**  Words that use an input index
`≥ a.inputs.length` are rejected by both automata (no transition carries such an index). -/
theorem minimize_lang (σ : Schedule) (a m : Auto) (hwf : WF a) (h : minimize σ a = some m) :
    ∀ w : List Nat, m.accepts w = a.accepts w := by
  obtain ⟨P, _, hP, hS, rfl⟩ := minimize_some hwf h
  intro w
  rw [accepts_eq, accepts_eq, hwf.accFrom_eq_accC]
  have hst : a.start ∈ a.states := mem_states.2 (.inl rfl)
  show accFrom (renum (quot P a)) (renumF (quot P a) (quot P a).start) w = _
  rw [min_accFrom hwf hP hS (mem_states.2 (.inl rfl))]
  exact accC_rep hP hS (mem_allStates.2 (.inr hst)) w

theorem minimize_inputs (σ : Schedule) (a m : Auto) (h : minimize σ a = some m) :
    m.inputs = a.inputs := by
  rw [minimize_eq, Option.map_eq_some_iff] at h
  obtain ⟨P, _, rfl⟩ := h
  rfl

theorem minimize_acceptsInp (σ : Schedule) (a m : Auto) (hwf : WF a) (h : minimize σ a = some m)
    (w : List Inp) : m.acceptsInp w = a.acceptsInp w := by
  unfold Auto.acceptsInp
  rw [minimize_inputs σ a m h]
  cases w.mapM (fun x => a.inputs.idxOf? x) with
  | none => rfl
  | some is => exact minimize_lang σ a m hwf h is

/-- `WF` is not vacuous: a 3-state automaton, for `0 1* [0] | 1` over the input indices -/
def exAuto : Auto :=
  { start := 1, trans := [(1, 0, 2), (2, 1, 2), (2, 0, 3), (1, 1, 3)], acc := [2, 3],
    inputs := [.star, .star] }

example : WF exAuto := by
  refine ⟨by decide, by decide, by decide, ?_⟩
  intro q hq
  have : q = 2 ∨ q = 3 := by simpa [exAuto] using hq
  rcases this with rfl | rfl
  · exact ⟨[0], rfl⟩
  · exact ⟨[1], rfl⟩

example : (minimize fifo exAuto).isSome = true := by decide

end Complgen.Min
