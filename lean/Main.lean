import Complgen.Model.Hex
import Complgen.Model.Quote
import Complgen.Model.Pipeline
import Complgen.Model.Parse
import Complgen.Model.Dot
import Complgen.Model.DotEmit
import Complgen.Model.Tables
import Complgen.Model.BashRt
import Complgen.Model.BashRtCalls
import Complgen.Cert.Search
import Complgen.Cert.Canon
import Complgen.Cert.Det
import Complgen.Spec.Den
import Complgen.Spec.Warn
import Complgen.Spec.Complete
import Complgen.Proofs.SpecAuto
import Complgen.Proofs.Ladder
import Complgen.Proofs.LadderFull
import Complgen.Proofs.Statements
import Complgen.Gen.Chains
import Complgen.Gen.Tables
import Complgen.Gen.Diag

open Complgen

def dialectOf : String → Option (Quote.Dialect × Quote.Chain)
  | "bash" => some (Quote.bashDialect, Gen.bashChain)
  | "fish" => some (Quote.fishDialect, Gen.fishChain)
  | "zsh" => some (Quote.zshDialect, Gen.zshChain)
  | "pwsh" => some (Quote.pwshDialect, Gen.pwshChain)
  | "dotcmd" => some (Quote.dotDialect, Gen.dotRegexCmdChain)
  | "dotlabel" => some (Quote.dotDialect, Gen.dotDfaLabelChain)
  | _ => none

/-! ### seeded layouts for the printers with layout (`Proofs/LadderFullLayout.lean`, `Proofs/Statements.lean`) -/

/-- stretches that may stand directly after a word (no leading `#`), non-empty -/
def layMenuW : List String :=
  [" ", "  ", "\t", "\n", " \n  ", " # a comment\n", "\n# c1\n# c2 | ; (\n", " \x0c ", "\n\x0c\n", " #\n", "\r\n"]
/-- any stretch, possibly empty or starting with a comment -/
def layMenu : List String := ["", "", " "] ++ layMenuW ++ ["# x\n", "#\n "]

def layHash (sd : Nat) (path : List Nat) (field : Nat) : Nat :=
  (path.foldl (fun h x => (h * 1000003 + x + 7) % 2147483647) ((sd * 31 + field) % 2147483647) * 48271) % 2147483647

def pick (menu : List String) (h : Nat) : List Char :=
  match menu[h % menu.length]? with
  | some x => x.toList
  | none => []

def seededLayout (sd : Nat) : Parse.Layout :=
  { sep := fun p => pick layMenuW (layHash sd p 1)
    barL := fun p => pick ("" :: layMenuW) (layHash sd p 2)
    barR := fun p => pick layMenu (layHash sd p 3)
    opn := fun p => pick layMenu (layHash sd p 4)
    cls := fun p => pick ("" :: layMenuW) (layHash sd p 5)
    dots := fun p => pick ("" :: "" :: layMenuW) (layHash sd p 6) }

def seededStmtLayout (sd i : Nat) : Parse.StmtLayout :=
  { eq := layHash sd [i] 7 % 2 == 0
    name := pick layMenuW (layHash sd [i] 8)
    sign := pick layMenu (layHash sd [i] 9)
    expr := seededLayout (sd * 7919 + i)
    semi := pick ("" :: layMenuW) (layHash sd [i] 10)
    next := pick layMenu (layHash sd [i] 11) }

def seededGLayout (sd : Nat) : Parse.GLayout :=
  { lead := pick layMenu (layHash sd [] 12), stmt := fun i => seededStmtLayout sd i, semi := layHash sd [] 13 % 3 != 0 }

/-- every stretch of the menus is a layout in the sense of the theorems (`IsLayout`, and for the
word-adjacent positions not starting with `#`): decided once per request -/
def layoutAdmissible (_sd _n : Nat) : Bool :=
  layMenu.all (fun x => Parse.layoutOK false x.toList) &&
  layMenuW.all (fun x => Parse.layoutOK false x.toList && x.toList.head? != some '#' && !x.isEmpty)

/-! ### automata with their labels on the wire (for the model of `DFA::to_dot`):
`start;acc,acc;from.i.to~from.i.to;inp|inp|…` with `inp` = the fields of `Inp.text` joined by `_` -/

def parseInp (s : String) : Option Inp :=
  match s.splitOn "_" with
  | ["L", t, d, l] => do some (.lit (← Hex.decode t) (← Hex.decodeOpt d) (← l.toNat?))
  | ["W", k, l] => do some (.sub (← k.toNat?) (← l.toNat?))
  | ["C", c, "0", l] => do some (.cmd (← Hex.decode c) (← l.toNat?))
  | ["C", c, "1", l] => do some (.compadd (← Hex.decode c) (← l.toNat?))
  | ["X"] => some .star
  | _ => none

def parseAutoWire (s : String) : Option Auto :=
  match s.splitOn ";" with
  | [st, acc, tr, ins] => do
    let start ← st.toNat?
    let acc ← ((acc.splitOn ",").filter (fun x => x ≠ "" && x ≠ "-")).mapM (·.toNat?)
    let trans ← ((tr.splitOn "~").filter (fun x => x ≠ "" && x ≠ "-")).mapM fun t =>
      match t.splitOn "." with
      | [a, i, b] => do some (← a.toNat?, ← i.toNat?, ← b.toNat?)
      | _ => none
    let inputs ← ((ins.splitOn "|").filter (fun x => x ≠ "" && x ≠ "-")).mapM parseInp
    some { start, trans, acc, inputs }
  | _ => none

/-! ### keyed automata on the wire: `start;acc,acc,…;from,key,to~from,key,to~…` (no blanks) -/

def parseKAuto (s : String) : Option Cert.KAuto :=
  match s.splitOn ";" with
  | [st, acc, tr] => do
    let start ← st.trimAscii.toString.toNat?
    let acc ← ((acc.splitOn ",").filter (· ≠ "")).mapM (·.toNat?)
    let trans ← ((tr.splitOn "~").filter (· ≠ "")).mapM fun t =>
      match t.splitOn "," with
      | [a, k, b] => do some (← a.toNat?, k, ← b.toNat?)
      | _ => none
    some { start, acc, trans }
  | _ => none

open Complgen.Cert (canonK sortStrings hashKey)

def KAuto.wire (a : Cert.KAuto) : String := a.wire

def keyOfInp (subKey : Nat → String) : Inp → String
  | .lit t d l => s!"L:{Hex.encode t}:{Hex.encodeOpt d}:{l}"
  | .sub k l => s!"W:{subKey k}:{l}"
  | .cmd c l => s!"C:{Hex.encode c}:0:{l}"
  | .compadd c l => s!"C:{Hex.encode c}:1:{l}"
  | .star => "X"

def kautoOf (subKey : Nat → String) (a : Auto) : Cert.KAuto :=
  { start := a.start, acc := a.acc,
    trans := a.trans.map fun t => (t.1, keyOfInp subKey (a.inputs[t.2.1]?.getD .star), t.2.2) }

/-- key of the k-th within-word automaton: the hash of the canonical form of its language, plus the
number of earlier pool entries with the same language (language-equal automata that were interned
apart keep different keys, so the main automaton stays deterministic as an automaton over keys) -/
def subKeys (subs : List Auto) : Nat → String :=
  let hs := subs.map fun a => match canonK (kautoOf (fun _ => "?") a) with
    | some c => hashKey (KAuto.wire c)
    | none => "?"
  fun k => match hs[k]? with
    | none => "?"
    | some h => s!"{h}.{((hs.take k).filter (· == h)).length}"

def spansText (l : List Span) : String := " ".intercalate (l.map Span.text)

def alistText (m : Check.AList Span) : String :=
  " ".intercalate (sortStrings (m.map fun (n, s) => s!"{Hex.encode n}@{s.text}"))

def shellOf (s : String) : Option Shell := Shell.ofName? s

def outcomeText {α} (f : α → String) : Check.Outcome α → String
  | .ok a => "ok " ++ f a
  | .err c s => s!"err {c.name} {spansText s}"
  | .crash site => s!"crash {site}"

def regexText (r : Regex) : String :=
  let follow := " ".intercalate ((List.range r.inputs.length).filterMap fun p =>
    let f := normSet (r.follow p)
    if f.isEmpty then none else some s!"{p}:{",".intercalate (f.map toString)}")
  s!"inputs {" | ".intercalate (r.inputs.map RxInput.text)} ; end {r.endPos} ; tree {("K 2 " ++ r.root.text ++ s!"Z {r.endPos}")} ; nullable {r.nullable} ; first {",".intercalate ((normSet r.first).map toString)} ; follow {follow}"

def optListText : Option (List String) → String
  | none => "N"
  | some [] => "E"
  | some cs => ",".intercalate (sortStrings (cs.map Hex.encode))

def callsText (cs : List Spec.Complete.Call) : String :=
  if cs.isEmpty then "E" else
  ",".intercalate (sortStrings (cs.map fun c => s!"{Hex.encode c.cmd}/{Hex.encode c.a1}/{Hex.encode c.a2}"))

def parseOutTable (s : String) : String → List String :=
  let rows : List (String × List String) := if s == "-" then [] else
    (s.splitOn ";").filterMap fun row =>
      match row.splitOn "=" with
      | [c, ls] => do
        let c ← Hex.decode c
        let ls ← ((ls.splitOn ",").filter (· ≠ "")).mapM Hex.decode
        some (c, ls)
      | _ => none
  fun c => ((rows.find? (·.1 == c)).map (·.2)).getD []

def completeOne (W : Spec.Complete.World) (cl : String) : String :=
  match (cl.splitOn ",").mapM Hex.decode with
  | some (wb :: rest) =>
    match rest.reverse with
    | p :: wsRev =>
      let a := Spec.Complete.complete W wsRev.reverse p wb
      let lw := match a.lenientWord with | none => "-" | some x => optListText x
      let ll := match a.lenientLast with | none => "-" | some x => optListText x
      s!"{optListText a.strict}|{if a.ambiguous then 1 else if a.lenientAmbiguous then 2 else 0}|{lw}|{ll}|{callsText a.required}|{callsText a.allowed}"
    | [] => "bad-cmdline"
  | _ => "bad-cmdline"

/-! ### tables of an emitted bash script on the wire:
`lits=h,h;lt=q:i>t,i>t/q:…;ct=…;st=q>t,…;wt=…;ll=q:i.i/q:i|q:i;cl=…;wl=…;max=n` -/

def parsePairs (s : String) : List (Nat × Nat) :=
  ((s.splitOn ",").filter (· ≠ "")).filterMap fun p =>
    match p.splitOn ">" with
    | [a, b] => do some (← a.toNat?, ← b.toNat?)
    | _ => none

def parseRows (s : String) : List BashRt.Row :=
  ((s.splitOn "/").filter (· ≠ "")).filterMap fun r =>
    match r.splitOn ":" with
    | [q, ps] => do some (← q.toNat?, parsePairs ps)
    | _ => none

def parseLevels (s : String) : List (List BashRt.LevelRow) :=
  if s == "" then [] else
  (s.splitOn "|").map fun lvl =>
    ((lvl.splitOn "/").filter (· ≠ "")).filterMap fun r =>
      match r.splitOn ":" with
      | [q, ids] => do some (← q.toNat?, ((ids.splitOn ".").filter (· ≠ "")).filterMap (·.toNat?))
      | _ => none

def parseTables (s : String) : BashRt.Tables :=
  let kv := (s.splitOn ";").filterMap fun f =>
    match f.splitOn "=" with
    | [k, v] => some (k, v)
    | _ => none
  let get := fun k => ((kv.find? (·.1 == k)).map (·.2)).getD ""
  { literals := ((get "lits").splitOn ",").filter (· ≠ "") |>.filterMap Hex.decode,
    litTrans := parseRows (get "lt"), cmdTrans := parseRows (get "ct"), star := parsePairs (get "st"),
    subTrans := parseRows (get "wt"), litLevels := parseLevels (get "ll"), cmdLevels := parseLevels (get "cl"),
    subLevels := parseLevels (get "wl"), maxLevel := ((get "max").toNat?).getD 0 }

def parseOutIds (s : String) : Nat → List String :=
  let rows : List (Nat × List String) := if s == "-" then [] else
    (s.splitOn ";").filterMap fun row =>
      match row.splitOn "=" with
      | [c, ls] => do
        let ls ← ((ls.splitOn ",").filter (· ≠ "")).mapM Hex.decode
        some (← c.toNat?, ls.map Spec.Complete.field)
      | _ => none
  fun c => ((rows.find? (·.1 == c)).map (·.2)).getD []

def bashrtOne (S : BashRt.Script) (start : Nat) (cl : String) : String :=
  match (cl.splitOn ",").mapM Hex.decode with
  | some (wb :: rest) =>
    match rest.reverse with
    | p :: wsRev =>
      let r := BashRt.completeL S start wsRev.reverse p wb
      let calls := if r.2.isEmpty then "E" else
        ",".intercalate (r.2.map fun c => s!"{c.1}/{Hex.encode c.2.1}/{Hex.encode c.2.2}")
      optListText r.1 ++ "#" ++ calls
    | [] => "bad-cmdline"
  | _ => "bad-cmdline"

def handle (line : String) : String :=
  let line := line.trimAscii.toString
  match line.splitOn " " with
  | ["quote", sh, h] =>
    match dialectOf sh, Hex.decode h with
    | some (_, ch), some s => "ok " ++ Hex.encode (String.ofList (Quote.applyChain ch s.toList))
    | _, _ => "bad-op"
  | ["decode", sh, h] =>
    match dialectOf sh, Hex.decode h with
    | some (D, _), some s =>
      match D.decode s.toList with
      | some t => "ok " ++ Hex.encode (String.ofList t)
      | none => "none"
    | _, _ => "bad-op"
  | "validate" :: sh :: rest =>
    match shellOf sh, readGrammar (" ".intercalate rest) with
    | some sh, some g =>
      outcomeText (fun (v : Check.Valid) =>
        s!"{Hex.encode v.command} | {v.expr.text.trimAsciiEnd.toString} | {alistText v.undefined} | {alistText v.unused} | {alistText v.unusedSpecs}")
        (Check.validate g sh)
    | _, _ => "bad-op"
  | "rx" :: sh :: rest =>
    match shellOf sh, readGrammar (" ".intercalate rest) with
    | some sh, some g =>
      match Check.validate g sh with
      | .ok v =>
        let (r, pool) := Regex.ofExpr v.expr []
        "ok " ++ regexText r ++ String.join (pool.map fun sr => " ## " ++ regexText sr)
      | .err c s => s!"err {c.name} {spansText s}"
      | .crash s => s!"crash {s}"
    | _, _ => "bad-op"
  | "compile" :: sh :: rest =>
    match shellOf sh, readGrammar (" ".intercalate rest) with
    | some sh, some g =>
      outcomeText (fun (c : Pipeline.Compiled) =>
        let sk := subKeys c.raw.subs
        s!"raw {KAuto.wire (kautoOf sk c.raw.main)} ## min {KAuto.wire (kautoOf sk c.min.main)}" ++
          String.join (c.min.subs.map fun a => " ## sub " ++ KAuto.wire (kautoOf sk a)))
        (Pipeline.compile fifo g sh)
    | _, _ => "bad-op"
  | "spec" :: sh :: rest =>
    match shellOf sh, readGrammar (" ".intercalate rest) with
    | some sh, some g =>
      let m := Spec.meaning g sh
      let a := (Spec.toSRx Spec.wordKey m).toKAuto
      -- the hypotheses of `Spec.specAuto_correct` on this grammar: construction finished, no empty alternative
      let fin := if Spec.finishedB (Spec.toSRx Spec.wordKey m) then 1 else 0
      let nea := if Spec.NoEmptyAlt m then 1 else 0
      s!"ok {KAuto.wire a} ## {m.text.trimAsciiEnd.toString} ## {" ".intercalate ((Spec.wordsOf m).map Spec.wordKey)} ## {" ".intercalate ((Spec.wordsOf m).map fun c => hashKey c.eraseSpans.text)} ## fin={fin} nea={nea}"
    | _, _ => "bad-op"
  | "pick" :: sh :: name :: rest =>
    match shellOf sh, Hex.decode name, readGrammar (" ".intercalate rest) with
    | some sh, some name, some g =>
      match Spec.pick sh g name with
      | .command c a => s!"command {Hex.encode c} {if a then 1 else 0}"
      | .expr e => s!"expr {e.text.trimAsciiEnd.toString}"
      | .anyWord => "anyword"
    | _, _, _ => "bad-op"
  | "warnspec" :: sh :: rest =>
    match shellOf sh, readGrammar (" ".intercalate rest) with
    | some sh, some g =>
      let f := fun (l : List String) => " ".intercalate (sortStrings (l.map Hex.encode))
      s!"ok {f (Spec.undefinedNames sh g)} | {f (Spec.unusedNames g)} | {f (Spec.unusedSpecNames sh g)}"
    | _, _ => "bad-op"
  | "pp" :: rest =>
    -- the printer `pp` of `Proofs/LadderFull.lean` (the one `ladder_roundtrip` is about) on the first call variant
    match readGrammar (" ".intercalate rest) with
    | some (Stmt.call n _ e :: _) => "ok " ++ Hex.encode (n ++ " " ++ String.ofList (Parse.pp 0 e) ++ ";")
    | _ => "bad-op"
  | "ppfull" :: rest =>
    -- the printer `pp'` of `Proofs/LadderFull.lean` (escapes, descriptions, juxtaposition) on the first call variant
    match readGrammar (" ".intercalate rest) with
    | some (Stmt.call n _ e :: _) =>
      -- second field: does the parser model read the printed text back as `e` (up to spans)?  (true for
      -- every tree of the fragment by `ladder_roundtrip_full`; false tells the tree is outside it)
      "ok " ++ Hex.encode (n ++ " " ++ String.ofList (Parse.Full.pp' 0 e) ++ ";") ++
        (if Parse.Full.readsBack e then " 1" else " 0")
    | _ => "bad-op"
  | "ppgram" :: seed :: rest =>
    -- the printer of `Proofs/Statements.lean` on the whole grammar, under the layout drawn from `seed`
    -- (0 = the plain printer); the layout is checked to be admissible in the sense of the theorem
    match seed.toNat?, readGrammar (" ".intercalate rest) with
    | some sd, some g =>
      if sd == 0 then "ok " ++ Hex.encode (String.ofList (Parse.ppGrammar g)) else
      let G := seededGLayout sd
      if layoutAdmissible sd g.length then "ok " ++ Hex.encode (String.ofList (Parse.ppGrammarL G g))
      else "bad-layout"
    | _, _ => "bad-op"
  | ["parse", h] =>
    match Hex.decode h with
    | some src =>
      match Parse.parse src.toList with
      | .ok g => "ok " ++ Grammar.text g
      | .error sp => s!"err {sp.text}"
    | none => "bad-op"
  | "complete" :: sh :: out :: cls :: rest =>
    match shellOf sh, readGrammar (" ".intercalate rest) with
    | some sh, some g =>
      let W := Spec.Complete.worldOf g sh (parseOutTable out)
      "ok " ++ " ; ".intercalate ((cls.splitOn ";").map (completeOne W))
    | _, _ => "bad-op"
  | ["tablescmp", main, subs, realMain, realSubs] =>
    -- the model of the table construction (Model/Tables.lean; `tables_embed_main`: the tables determine exactly the
    -- automaton) on the automaton of the real library vs the tables read from the real bash script; literal ids are
    -- compared up to the order among entries with the same text (`canonLits`: bash scripts carry no descriptions,
    -- and the real code orders such entries with an unstable sort)
    match parseAutoWire main, (if subs == "-" then some [] else (subs.splitOn "&").mapM parseAutoWire) with
    | some m, some ss =>
      let d : Dfa := ⟨m, ss⟩
      let S := Tables.ofDfa d
      let canon := fun (T : BashRt.Tables) => Tables.wire (Tables.canonLits T)
      let cmds := ",".intercalate ((Tables.commands d).map Hex.encode)
      let real := if realSubs == "-" then [] else (realSubs.splitOn "&").filterMap fun x =>
        match x.splitOn "@" with
        | [j, w] => j.toNat?.map fun j => (j, w)
        | _ => none
      if canon (parseTables realMain) != canon S.main then
        s!"ok differ main model={canon S.main} real={canon (parseTables realMain)} ## {cmds}"
      else if real.map (·.1) != S.subs.map (·.1) then
        s!"ok differ subids model={S.subs.map (·.1)} real={real.map (·.1)} ## {cmds}"
      else
        match real.find? (fun (j, w) => canon (parseTables w) != canon (S.sub j)) with
        | some (j, w) => s!"ok differ sub{j} model={canon (S.sub j)} real={canon (parseTables w)} ## {cmds}"
        | none => s!"ok same ## {cmds}"
    | _, _ => "bad-op"
  | ["dotemit", base, main, subs] =>
    -- the model of `DFA::to_dot` (Model/DotEmit.lean; `emitDfa_parse`: its output always parses to the
    -- expected graph) on the automaton of the real library: the bytes must be those of the real `--dfa` file
    match base.toNat?, parseAutoWire main,
        (if subs == "-" then some [] else (subs.splitOn "&").mapM parseAutoWire) with
    | some b, some m, some ss =>
      let d : Dfa := ⟨m, ss⟩
      let scope := (m :: ss).all fun a => a.inputs.all fun
        | .lit _ (some dsc) _ => Dot.debugInScope dsc
        | _ => true
      s!"ok {Hex.encode (Dot.emitDfa d b)} {if scope then 1 else 0}"
    | _, _, _ => "bad-op"
  | ["dot", h] =>
    match Hex.decode h with
    | some src => Dot.dumpText src
    | none => "bad-op"
  | ["bashrt", start, out, main, subs, cls] =>
    let S : BashRt.Script :=
      { main := parseTables main,
        subs := if subs == "-" then [] else (subs.splitOn "&").filterMap fun x =>
          match x.splitOn "@" with
          | [id, t] => do some (← id.toNat?, parseTables t)
          | _ => none,
        out := parseOutIds out }
    "ok " ++ " ; ".intercalate ((cls.splitOn ";").map (bashrtOne S (start.toNat?.getD 0)))
  | ["labels"] =>
    "ok " ++ " ".intercalate (Gen.diagLabels.map fun (k, v) => s!"{Hex.encode k}:{Hex.encode v}")
  | ["canon", a] =>
    match parseKAuto a with
    | some a => match canonK a with
      | some c => s!"ok {hashKey (KAuto.wire c)} {c.states.length} {KAuto.wire c}"
      | none => "none"
    | none => "bad-op"
  | ["equiv", a, b] =>
    match parseKAuto a, parseKAuto b with
    | some a, some b =>
      if !Cert.detCheck a then "nondet A" else if !Cert.detCheck b then "nondet B" else
      match Cert.findBisim a b with
      | .error w => "differ " ++ " ".intercalate w
      | .ok R => if Cert.bisimCheck a b R then s!"equiv {R.length}" else "search-failed"
    | _, _ => "bad-op"
  | ["worddet", a] =>
    match parseKAuto a with
    | some a =>
      if Cert.wordDetCheck a Cert.wordClass then "det" else
      match Cert.wordConflict a Cert.wordClass with
      | some (q, k1, k2, t1, t2) => s!"conflict {q} {k1} {k2} {t1} {t2}"
      | none => "search-failed"
    | none => "bad-op"
  | ["conflicts", a] =>
    match parseKAuto a with
    | some a => "ok " ++ " ".intercalate ((Cert.wordConflictPairs a Cert.wordClass).map fun (x, y) => s!"{x},{y}")
    | none => "bad-op"
  | ["eraselevels", a] =>
    match parseKAuto a with
    | some a => "ok " ++ KAuto.wire (a.mapKeys Cert.eraseLevel)
    | none => "bad-op"
  | ["minimal", a] =>
    match parseKAuto a with
    | some a =>
      if !Cert.detCheck a then "nondet" else
      let acc := Cert.accessWords a
      if !Cert.accessCheck a acc then
        match a.states.find? (fun s => !(acc.any (·.1 == s))) with
        | some s => s!"unreachable {s}"
        | none => "search-failed access"
      else
      let co := Cert.coaccessWords a
      if !Cert.coaccessCheck a co then
        match a.states.find? (fun s => !(co.any (·.1 == s))) with
        | some s => s!"dead {s}"
        | none => "search-failed coaccess"
      else
      match Cert.distinguish a with
      | .error (p, q) => s!"mergeable {p} {q}"
      | .ok d => if Cert.distinctCheck a d then s!"minimal {a.states.length}" else "search-failed distinct"
    | none => "bad-op"
  | _ => "bad-op"

partial def loop (h : IO.FS.Stream) (out : IO.FS.Stream) : IO Unit := do
  let line ← h.getLine
  if line.isEmpty then return ()
  out.putStrLn (handle line)
  loop h out

def main : IO Unit := do
  let out ← IO.getStdout
  loop (← IO.getStdin) out
  out.flush
